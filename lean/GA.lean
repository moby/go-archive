import GA.Go.Str
import GA.Go.Path
import GA.K.FS
import GA.K.Sys
import GA.K.Prog
import GA.Tar.Entry
import GA.Generated.Facts
import GA.M.Guards
import GA.M.IDMap
import GA.M.Unpack
import GA.M.Pack
import GA.M.Export
import GA.M.Copy
import GA.M.Compress
import GA.M.Unshare
import GA.M.Rewrite
import GA.M.Changes
import GA.M.Pipe
import GA.Proofs.PathLemmas
import GA.Proofs.Within
import GA.Proofs.Confine
import GA.Proofs.ConfineStep
import GA.Proofs.NonInterf
import GA.Proofs.Programs
import GA.Proofs.ListLemmas
import GA.Proofs.PackAll
import GA.Proofs.LexJoin
import GA.Proofs.LexStrings
import GA.Proofs.DirBase
import GA.Props.C01
import GA.Props.C02
import GA.Props.C03
import GA.Props.C04
import GA.Props.C04b
import GA.Props.C04c
import GA.Props.C04d
import GA.Props.C04e
import GA.Props.C05
import GA.Props.C06
import GA.Props.C07
import GA.Props.C08
import GA.Props.C09
import GA.Props.C10
import GA.Props.C11
import GA.Props.C12
import GA.Props.C12b
import GA.Props.C13
import GA.Props.C14
import GA.Props.C15
import GA.Props.C16
import GA.Props.C17
import GA.Props.C18
import GA.Props.C19
import GA.Props.C19b
import GA.Props.C20
import GA.M.TreeDiff
import GA.M.TreeApply
import GA.Proofs.TreeDiffSpec
import GA.Props.C10b
import GA.Props.C10c
import GA.Proofs.LexUnpack
import GA.Proofs.LexLayer
import GA.Props.C02b
import GA.Proofs.EntryPost
import GA.Props.C05b
import GA.Props.C05c
import GA.Props.C05d
import GA.Props.C05e
import GA.Props.C05f
import GA.Props.C05g
import GA.Props.C03b
import GA.Props.C03c
import GA.Props.C03d
import GA.Props.C03e
import GA.Props.C06b
import GA.Props.C06c
import GA.Props.C20b
import GA.Proofs.LayerIter
import GA.Proofs.LayerWalk
import GA.Proofs.LayerAll
import GA.Proofs.LayerPost
import GA.Proofs.LayerEntry
import GA.Proofs.LayerOpaque
import GA.Props.C06d
import GA.Props.C06e
import GA.Props.C06f
import GA.Props.C05h
import GA.Props.C05i
import GA.Props.C06g
import GA.Props.C06h
import GA.Props.C06i
import GA.Props.C06j
