import GA.Proofs.LexLayer
import GA.Proofs.LWCheck
/-
  C02, second sentence: "for archives that contain no symlink entries, extracted into a destination
  that contains no symlinks, nothing outside the destination is created, modified, deleted, re-owned,
  re-timed or hard-linked, on success or on failure" — for the plain `Untar`.

  `LW dp w` is the hypothesis on the world: the thread root is "/", no name of the file system is a
  symbolic link, the destination `dp` is a directory, its ancestors are directories that have no second
  name inside the destination, and inode numbers are allocated freshly.  `Confined dp fs fs'` is the
  conclusion: every name outside `dp` resolves to the same inode, every inode reachable only from
  outside `dp` is unchanged (kind, mode, owner, times, content, attributes), and none of them has
  acquired a name inside `dp`.
-/
namespace GA.C02
open GA

/-- **plain untar of an archive without symbolic-link entries into a symlink-free world changes
    nothing outside the destination** — for every archive (names of any shape, duplicates, hard links,
    devices, any order), every option set of the default whiteout format, every prior tree, and
    whatever the outcome (success, refusal, error half-way) -/
theorem untar_symlink_free_confined (dest : Str) (o : Opts) (es : List Entry) (w : World)
    (habs : isAbs dest = true) (hov : o.overlay = false) (hsym : ∀ e ∈ es, e.typ ≠ .sym)
    (hw : LW (pathComps (clean dest)) w) :
    Confined (pathComps (clean dest)) w.fs ((untarP dest o es).run w).2.fs ∧
    LW (pathComps (clean dest)) ((untarP dest o es).run w).2 := by
  have := LexSem.run _ _ (untarP dest o es) w (lex_untar dest o es habs hov hsym) hw
  exact ⟨this.1, this.2.1⟩

/-- what the conclusion says about a single outside path: it still resolves to the same object, and
    if that object has no name inside the destination it is bit-for-bit what it was -/
theorem untar_outside_untouched (dest : Str) (o : Opts) (es : List Entry) (w : World)
    (habs : isAbs dest = true) (hov : o.overlay = false) (hsym : ∀ e ∈ es, e.typ ≠ .sym)
    (hw : LW (pathComps (clean dest)) w) (p : Path) (hp : under (pathComps (clean dest)) p = false) :
    ((untarP dest o es).run w).2.fs.lookup p = w.fs.lookup p ∧
    ∀ i, w.fs.lookup p = some i → OutsideOnly (pathComps (clean dest)) w.fs i →
      ((untarP dest o es).run w).2.fs.inode i = w.fs.inode i := by
  have h := (untar_symlink_free_confined dest o es w habs hov hsym hw).1
  exact ⟨h.names_out p hp, fun i _ ho => h.inode_out i ho⟩

/-- the extraction can be repeated: the invariant holds again afterwards (so the statement covers
    any sequence of such extractions into the same destination) -/
theorem untar_twice_confined (dest : Str) (o1 o2 : Opts) (es1 es2 : List Entry) (w : World)
    (habs : isAbs dest = true) (hov1 : o1.overlay = false) (hov2 : o2.overlay = false)
    (hs1 : ∀ e ∈ es1, e.typ ≠ .sym) (hs2 : ∀ e ∈ es2, e.typ ≠ .sym) (hw : LW (pathComps (clean dest)) w) :
    Confined (pathComps (clean dest)) w.fs
      ((untarP dest o2 es2).run ((untarP dest o1 es1).run w).2).2.fs := by
  have h1 := untar_symlink_free_confined dest o1 es1 w habs hov1 hs1 hw
  have h2 := untar_symlink_free_confined dest o2 es2 _ habs hov2 hs2 h1.2
  exact Confined.trans h1.1 h2.1

/-- **plain layer apply of a layer without symbolic-link entries into a symlink-free world changes
    nothing outside the destination** — whiteouts at any depth, opaque markers with their walk, the
    hard-link staging area, reserved names, any order, whatever the outcome -/
theorem applyLayer_symlink_free_confined (dest : Str) (o : Opts) (es : List Entry) (oldUmask : Nat) (w : World)
    (habs : isAbs dest = true) (hsym : ∀ e ∈ es, e.typ ≠ .sym) (hw : LW (pathComps (clean dest)) w) :
    Confined (pathComps (clean dest)) w.fs ((applyLayerP dest o es oldUmask).run w).2.fs ∧
    LW (pathComps (clean dest)) ((applyLayerP dest o es oldUmask).run w).2 := by
  have := LexSem.run _ _ (applyLayerP dest o es oldUmask) w (lex_applyLayer dest o es oldUmask habs hsym) hw
  exact ⟨this.1, this.2.1⟩

/-- a sequence of layers applied one after the other (each without symbolic-link entries) -/
theorem applyLayers_confined (dest : Str) (o : Opts) (um : Nat) (habs : isAbs dest = true) :
    ∀ (layers : List (List Entry)) (w : World), (∀ es ∈ layers, ∀ e ∈ es, e.typ ≠ .sym) →
      LW (pathComps (clean dest)) w →
      Confined (pathComps (clean dest)) w.fs
        (layers.foldl (fun w' es => ((applyLayerP dest o es um).run w').2) w).fs
  | [], w, _, _ => Confined.refl _ _
  | es :: rest, w, hs, hw => by
    simp only [List.foldl_cons]
    have h1 := applyLayer_symlink_free_confined dest o es um w habs (hs es (by simp)) hw
    have h2 := applyLayers_confined dest o um habs rest _ (fun x hx => hs x (by simp [hx])) h1.2
    exact Confined.trans h1.1 h2

/-! ### the hypotheses are satisfiable: a world with a destination and something beside it -/

def exDir : Inode := { kind := .dir, perm := 0o755, uid := 0, gid := 0, mtime := some 0 }
def exFS : FS :=
  { names := [([], 0), ([b!"w"], 1), ([b!"w", b!"dest"], 2), ([b!"w", b!"secret"], 3)],
    inode := fun j => if j ≤ 2 then some exDir else if j = 3 then some { exDir with kind := .reg, data := b!"s" } else none,
    next := 4 }

theorem exFS_mem (p : Path) (i : Ino) (h : exFS.lookup p = some i) : (p, i) ∈ exFS.names :=
  mem_names_of_lookup h

example : LW (pathComps (clean b!"/w/dest")) ({ fs := exFS } : World) := by
  apply LW.of_lwB
  decide

end GA.C02
