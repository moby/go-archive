import GA.Proofs.LexNames
/-
  C06, first clause: "a whiteout for X removes X and everything beneath it and creates nothing" — for the
  removal step `UnpackLayer` performs for a whiteout entry (`os.Stat` of the parent, `os.RemoveAll` of the
  target), run on the kernel model in a symlink-free tree.  (The implied parents of the whiteout entry's own
  name are created before this step: known finding D9.)
-/
namespace GA.C06
open GA

/-- **the removal for a whiteout**: if it reports success, the target and everything beneath it are gone;
    and whatever it reports, no name exists afterwards that did not exist before — for every tree, every
    target lexically beneath the destination (and not the destination itself) -/
theorem whiteout_removes_and_creates_nothing (dp : Path) (w : World) (orig : Str)
    (hw : LW dp w) (hl : LexArg dp orig) (hs : pathComps orig ≠ dp) :
    (∀ r, ((whiteoutRemoveP orig).run w).1 = some r → isErr r = false →
      ∀ q, under (pathComps orig) q = true → ((whiteoutRemoveP orig).run w).2.fs.lookup q = none) ∧
    (∀ q i, ((whiteoutRemoveP orig).run w).2.fs.lookup q = some i → w.fs.lookup q = some i) := by
  unfold whiteoutRemoveP
  simp only [Prog.run, stat_world]
  by_cases hn : notDirRes (step w (Sys.stat (dir orig))).1 = true
  · simp only [hn, if_true, Prog.run]
    exact ⟨fun r h => (by cases h), fun _ _ h => h⟩
  · simp only [hn, Bool.false_eq_true, if_false, Prog.run]
    have hpost := removeAll_post dp w hw orig hl hs
    refine ⟨fun r hr herr q hq => ?_, hpost.2⟩
    injection hr with hr
    exact hpost.1 (by rw [hr]; exact herr) q hq

end GA.C06
