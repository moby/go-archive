import GA.Proofs.LayerOpaque
import GA.Proofs.LayerEntry
import GA.Props.C06c
/-
  C06, the opaque-marker clause for what the layer itself provides: **a file the layer put into `D` survives a
  later opaque marker for `D` in the same layer**.  For every layer `pre ++ f :: (mid ++ m :: post)` without
  symbolic-link entries, every option set and every prior symlink-free world: if `ApplyLayer` reports success, `f`
  is a regular-file entry for a direct child `D/x` of the directory `D` whose opaque marker `m` comes later, and
  nothing between or after them names `D/x` (or a path above or beneath it, or a whiteout for it, or a link to it),
  then after the apply `D/x` is a regular file with `f`'s content, mode bits and owner.

  Together with `layer_reg_last_wins` (the marker *before* the file: the marker is part of `pre`, which that
  theorem does not restrict) this is the "same final result wherever the marker appears" clause for the entries the
  layer provides directly in the marker's directory.  (Deeper paths need every directory in between to have an
  entry of its own — the hypothesis of `iter_opaque_kept`, and what finding D7 is about.)
-/
namespace GA.C06
open GA

theorem layer_reg_survives_opaque (dest : Str) (o : Opts) (pre mid post : List Entry) (f m : Entry) (um : Nat) (w : World)
    (habs : isAbs dest = true)
    (hsym : ∀ x ∈ pre ++ f :: (mid ++ m :: post), x.typ ≠ .sym)
    (hw : LW (pathComps (clean dest)) w)
    -- `f`: an ordinary regular-file entry
    (hreg : f.typ = .reg)
    (hmeta : hasPrefix (clean f.name) whMetaPrefix = false)
    (hnwh : hasPrefix (base (join (clean dest) (clean f.name))) whPrefix = false)
    (hne : pathComps (join (clean dest) (clean f.name)) ≠ pathComps (clean dest))
    -- `m`: an opaque marker for the directory `f`'s path is a direct child of
    (hx : m.typ ≠ .xglobal)
    (hstage : (hasPrefix (clean m.name) whMetaPrefix && hasPrefix (clean m.name) whLinkDir && m.typ == .reg) = false)
    (hskip : (hasPrefix (clean m.name) whMetaPrefix && decide (clean m.name ≠ whOpaqueDir)) = false)
    (hop : base (join (clean dest) (clean m.name)) = whOpaqueDir)
    (hchild : (pathComps (join (clean dest) (clean f.name))).dropLast = pathComps (dir (join (clean dest) (clean m.name))))
    (hself : ¬ pathComps (join (clean dest) (clean m.name)) <+: pathComps (join (clean dest) (clean f.name)))
    -- nothing in between or afterwards disturbs the file's path
    (hcovM : ¬ Cov (touchedL (clean dest) mid) (pathComps (join (clean dest) (clean f.name))))
    (hancM : ¬ Anc (touchedL (clean dest) mid) (pathComps (join (clean dest) (clean f.name))))
    (hcovP : ¬ Cov (touchedL (clean dest) post) (pathComps (join (clean dest) (clean f.name))))
    (hancP : ¬ Anc (touchedL (clean dest) post) (pathComps (join (clean dest) (clean f.name))))
    (hok : ((applyLayerP dest o (pre ++ f :: (mid ++ m :: post)) um).run w).1.1 = .ok) :
    ∃ e' i n, remapE o f = some e' ∧
      ((applyLayerP dest o (pre ++ f :: (mid ++ m :: post)) um).run w).2.fs.lookup (pathComps (join (clean dest) (clean f.name))) = some i ∧
      ((applyLayerP dest o (pre ++ f :: (mid ++ m :: post)) um).run w).2.fs.inode i = some n ∧
      n.kind = .reg ∧ n.data = f.body ∧ n.perm = f.mode &&& 0o7777 ∧
      (o.noLchown = false → (n.uid, n.gid) = o.chownOpts.getD (e'.uid, e'.gid)) := by
  have hd : CleanAbs (clean dest) := clean_cleanAbs dest habs
  obtain ⟨s1, w1, s2, w2, s5, w5, c1, hit, c2, hrun, c5, _, _, hfs⟩ :=
    applyLayer_split dest o pre (mid ++ m :: post) f um w habs hsym hw hok
  obtain ⟨s3, w3, hmi, hrun⟩ := layerRun_append_ok hrun
  obtain ⟨s4, w4, hitM, hpo⟩ := layerRun_cons_ok hrun
  obtain ⟨c3, hmidF⟩ := c2.run hd (fun x hx => hsym x (by simp [hx])) hmi
  have c4 := (c3.iter hd (hsym m (by simp)) hitM).1
  obtain ⟨_, hpostF⟩ := c4.run hd (fun x hx => hsym x (by simp [hx])) hpo
  -- the file as its own iteration leaves it; the entries in between do not name it
  obtain ⟨⟨_, hunp⟩, _, e', i, n, hrem, hl2, huniq, hi2, hfin⟩ :=
    iterL_reg_post _ (clean dest) o hd rfl f s1 w1 c1.lw hreg hmeta hnwh hne s2 w2 hit
  have hk3 : Kept (pathComps (join (clean dest) (clean f.name))) i n w3 :=
    Kept.framed ⟨hl2, huniq, by rw [hi2]; rfl⟩ hmidF (fun h => hcovM (cov_mono (touchedIs_sub _ _) h))
  have hunp3 : join (clean dest) (clean f.name) ∈ s3.unpacked :=
    layerRun_unpacked_mono (clean dest) o mid s2 w2 s3 w3 hmi _ (by rw [hunp]; simp)
  -- the marker: between `D` and its direct child there is only the child, which this layer unpacked
  have hpfc : CleanAbs (join (clean dest) (clean f.name)) := join_cleanAbs _ _ hd
  have hsafe : ∀ s, CleanAbs s → pathComps (dir (join (clean dest) (clean m.name))) <+: pathComps s →
      s ≠ dir (join (clean dest) (clean m.name)) → pathComps s <+: pathComps (join (clean dest) (clean f.name)) →
      s3.unpacked.contains s = true := by
    intro s hs hDs hne' hsP
    have hDc : CleanAbs (dir (join (clean dest) (clean m.name))) := (dir_cleanAbs (join_cleanAbs _ _ hd)).1
    have hcomps : pathComps s = pathComps (join (clean dest) (clean f.name)) := by
      have hDlen : (pathComps (dir (join (clean dest) (clean m.name)))).length =
          (pathComps (join (clean dest) (clean f.name))).length - 1 := by
        rw [← hchild]; simp
      have h1 := hDs.length_le
      have h2 := hsP.length_le
      by_cases hlen : (pathComps s).length = (pathComps (join (clean dest) (clean f.name))).length
      · exact hsP.eq_of_length hlen
      · exfalso
        have hl' : (pathComps (dir (join (clean dest) (clean m.name)))).length = (pathComps s).length := by omega
        exact hne' (cleanAbs_eq_of_comps hs hDc (hDs.eq_of_length hl').symm)
    rw [cleanAbs_eq_of_comps hs hpfc hcomps]
    exact List.contains_iff_mem.mpr hunp3
  have hk4 := (iter_opaque_kept _ (clean dest) o hd rfl m s3 w3 c3.lw hx hstage hskip hop
    _ i n hk3 hself hsafe s4 w4 hitM).2
  have hk5 : Kept _ i n w5 := hk4.framed hpostF (fun h => hcovP (cov_mono (touchedIs_sub _ _) h))
  obtain ⟨n5, hi5, hen5⟩ := eraseM_of_map hk5.2.2
  have hf5 := eraseM_fields hen5
  obtain ⟨hl6, hi6⟩ := layerEnd_quiet _ (clean dest) o hd rfl s5 w5 c5.lw c5.lex c5.fr
    i n5 _ hk5.1 hi5 (by rw [hf5.1, hfin.1]; intro h; cases h) hk5.2.1
    (fun h => hcovP (cov_mono (tmp_mem_touchedL _ _) h)) (fun h => hancP (anc_mono (tmp_mem_touchedL _ _) h))
  obtain ⟨u, g, rfl⟩ := remapE_eq o f e' hrem
  rw [hfs]
  refine ⟨_, i, n5, hrem, hl6, hi6, hf5.1.trans hfin.1, (congrArg Inode.data hen5).trans hfin.2.1,
    hf5.2.1.trans hfin.2.2.1, fun hno => ?_⟩
  rw [hf5.2.2.1, hf5.2.2.2]
  exact hfin.2.2.2.2 hno

/-! ### non-vacuity: `d/`, `d/x`, then the marker `d/.wh..wh..opq` (over a tree in which `d` does not exist) -/

def exHD : Entry := { name := b!"d/", typ := .dir, mode := 0o711, mtime := 1000 }
def exHX : Entry := { name := b!"d/x", typ := .reg, mode := 0o644, mtime := 2000, body := b!"hi", size := 2 }
def exOpq : Entry := { name := b!"d/.wh..wh..opq", typ := .reg }

theorem exOpq_ok : ((applyLayerP b!"/w/dest" {} ([exHD] ++ exHX :: ([] ++ exOpq :: [])) 0o022).run { fs := C05.exFS2 }).1.1 = .ok := by
  decide +kernel

/-- the file the layer provided is still there after the marker that follows it -/
example : ∃ i n, ((applyLayerP b!"/w/dest" {} ([exHD] ++ exHX :: ([] ++ exOpq :: [])) 0o022).run { fs := C05.exFS2 }).2.fs.lookup
      [b!"w", b!"dest", b!"d", b!"x"] = some i ∧
    ((applyLayerP b!"/w/dest" {} ([exHD] ++ exHX :: ([] ++ exOpq :: [])) 0o022).run { fs := C05.exFS2 }).2.fs.inode i = some n ∧
    n.kind = .reg ∧ n.data = b!"hi" := by
  have hP : pathComps (join (clean b!"/w/dest") (clean exHX.name)) = [b!"w", b!"dest", b!"d", b!"x"] := by decide
  obtain ⟨e', i, n, _, hl, hi, hk, hdt, _⟩ := layer_reg_survives_opaque b!"/w/dest" {} [exHD] [] [] exHX exOpq 0o022
    { fs := C05.exFS2 } (by decide)
    (by intro x hx; simp [exHD, exHX, exOpq] at hx; rcases hx with rfl | rfl | rfl <;> simp)
    C05.exFS2_LW rfl (by decide) (by decide) (by rw [hP]; decide)
    (by decide) (by decide) (by decide) (by decide) (by decide) (by rw [hP]; decide)
    (by decide) (by decide) (by decide) (by decide)
    exOpq_ok
  rw [hP] at hl
  exact ⟨i, n, hl, hi, hk, hdt⟩

end GA.C06
