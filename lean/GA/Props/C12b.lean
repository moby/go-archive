import GA.M.Pack
/-
  C12 — the decision logic of ownership on both sides, stated outright over the mechanism models
  (`tarAppender.addTarFile`'s owner stage, `createTarFile`'s chown):
  an explicit override always wins; whiteout files keep their on-disk owner; an owner the mapping cannot
  translate leaves the entry out of the archive (it is never archived under another owner) and stops an
  extraction with an error before anything is created for the entry.
-/
namespace GA.C12
open GA

/-- archiving: with `ChownOpts` set, whatever is archived carries exactly that owner — for every file,
    owner, mapping and name (whiteout or not) -/
theorem pack_override_wins (o : PackOpts) (s : StatInfo) (hdr : Entry) (c ug : Nat × Nat)
    (hc : o.chownOpts = some c) (h : ownerOf o s hdr = some ug) : ug = c := by
  unfold ownerOf at h
  simp only [hc, Option.getD_some] at h
  cases h' : (if (!isOverlayWhiteout s hdr && !hasPrefix (base hdr.name) whPrefix &&
      !idMapEmpty { uidMaps := o.uidMaps, gidMaps := o.gidMaps }) = true
      then toContainerPair { uidMaps := o.uidMaps, gidMaps := o.gidMaps } s.uid s.gid else some (hdr.uid, hdr.gid)) with
  | none => rw [h'] at h; cases h
  | some x => rw [h'] at h; simp at h; exact h.symm

/-- archiving without an override: an ordinary file is recorded with its owner translated host → container -/
theorem pack_translates (o : PackOpts) (s : StatInfo) (hdr : Entry) (hc : o.chownOpts = none)
    (hw : isOverlayWhiteout s hdr = false) (hn : hasPrefix (base hdr.name) whPrefix = false)
    (hm : idMapEmpty { uidMaps := o.uidMaps, gidMaps := o.gidMaps } = false) :
    ownerOf o s hdr = toContainerPair { uidMaps := o.uidMaps, gidMaps := o.gidMaps } s.uid s.gid := by
  unfold ownerOf
  simp only [hw, hn, hm, hc, Bool.not_false, Bool.and_self, if_true, Option.getD_none]
  cases toContainerPair { uidMaps := o.uidMaps, gidMaps := o.gidMaps } s.uid s.gid <;> simp

/-- archiving: a whiteout file (name with the reserved prefix, or an overlay whiteout device) keeps the
    owner the header already has — the on-disk owner — whatever the mapping says -/
theorem pack_whiteout_untranslated (o : PackOpts) (s : StatInfo) (hdr : Entry) (hc : o.chownOpts = none)
    (hwh : hasPrefix (base hdr.name) whPrefix = true ∨ isOverlayWhiteout s hdr = true) :
    ownerOf o s hdr = some (hdr.uid, hdr.gid) := by
  unfold ownerOf
  rcases hwh with h | h <;> simp [h, hc]

/-- archiving: an owner the mapping cannot translate makes the owner stage refuse the entry … -/
theorem pack_untranslatable_refused (o : PackOpts) (s : StatInfo) (hdr : Entry)
    (hw : isOverlayWhiteout s hdr = false) (hn : hasPrefix (base hdr.name) whPrefix = false)
    (hm : idMapEmpty { uidMaps := o.uidMaps, gidMaps := o.gidMaps } = false)
    (hu : toContainerPair { uidMaps := o.uidMaps, gidMaps := o.gidMaps } s.uid s.gid = none) :
    ownerOf o s hdr = none := by
  unfold ownerOf
  simp [hw, hn, hm, hu]

/-- … and a refused entry is left out: the archive and the hard-link bookkeeping are what they were, for
    every outcome of every later system call (there is none) -/
theorem pack_refused_left_out (o : PackOpts) (st : PackState) (path name : Str) (s : StatInfo) (link : Str) (capR : Res)
    (h : ownerOf o s (linkStage st name s (buildHeader name s link capR)).1 = none) :
    afterStatP o st path name s link capR = .ret st := by
  unfold afterStatP
  simp only [h]

/-- extracting: the owner `createTarFile` asks the kernel for is the override when there is one, the
    (already translated) header owner otherwise, and nothing at all with `NoLchown` -/
theorem extract_chown_choice (path : Str) (e : Entry) (o : Opts) :
    ∃ k, applyMetaP path e o =
      (if o.noLchown then (pure Res.ok : Prog Res)
       else sys (.chown path (o.chownOpts.getD (e.uid, e.gid)).1 (o.chownOpts.getD (e.uid, e.gid)).2 false)) >>= k := by
  unfold applyMetaP
  exact ⟨_, rfl⟩

/-- extracting: an owner the mapping cannot translate is an error — `remapIDs` fails before `createTarFile`
    runs, so the entry is never created under another owner -/
theorem extract_untranslatable_is_error (o : Opts) (e : Entry) (h : toHostPair o e.uid e.gid = none) :
    remapE o e = none := by
  unfold remapE
  rw [h]; rfl

/-- non-vacuity: a mapping that covers 0..65535 translates host 100005 to container 5 and refuses host 7 -/
example : toContainerPair { uidMaps := [⟨0, 100000, 65536⟩], gidMaps := [⟨0, 100000, 65536⟩] } 100005 100005 = some (5, 5) ∧
    toContainerPair { uidMaps := [⟨0, 100000, 65536⟩], gidMaps := [⟨0, 100000, 65536⟩] } 7 7 = none := by decide

end GA.C12
