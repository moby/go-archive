import GA.Props.C05h
import GA.Props.C06e
import GA.Props.C06f
import GA.Props.C06i
/-
  C06 / C20 / C04, one statement for a whole layer: **after a successful `ApplyLayer`, every entry that has the
  last word on its path has had its effect** — for every layer without symbolic-link entries, every option set
  (outside a user namespace), every prior symlink-free world and every position in the layer:

  * a whiteout entry whose target nothing later names, covers or lies beneath: nothing exists at or beneath the
    target;
  * a regular-file, device, fifo or directory entry whose name is not reserved, that does not name the
    destination itself and that has the last word on its path (directories: later entries beneath it are
    welcome): the path holds the entry (`C05.Holds`: type, content or device numbers, mode, time, owner).

  It packages `layer_whiteout_removes`, `layer_reg_last_wins`, `layer_node_last_wins`, `layer_dir_last_wins`.
-/
namespace GA.C06
open GA

def pathOfL (dest : Str) (e : Entry) : Path := pathComps (join (clean dest) (clean e.name))

/-- `e` has the last word on its path within the layer -/
def FinalL (dest : Str) (e : Entry) (post : List Entry) : Prop :=
  ¬ Cov (touchedL (clean dest) post) (pathOfL dest e) ∧
  (e.typ ≠ .dir → ¬ Anc (touchedL (clean dest) post) (pathOfL dest e))

/-- an ordinary entry: not reserved, not a whiteout, not the destination itself -/
structure Ordinary (dest : Str) (e : Entry) : Prop where
  typ : e.typ = .reg ∨ e.typ = .dir ∨ e.typ = .chr ∨ e.typ = .blk ∨ e.typ = .fifo
  notMeta : hasPrefix (clean e.name) whMetaPrefix = false
  notWh : hasPrefix (base (join (clean dest) (clean e.name))) whPrefix = false
  notDest : pathOfL dest e ≠ pathComps (clean dest)

theorem applyLayer_success_all_present (dest : Str) (o : Opts) (es : List Entry) (um : Nat) (w : World)
    (habs : isAbs dest = true) (huns : o.inUserNS = false)
    (hsym : ∀ x ∈ es, x.typ ≠ .sym)
    (hw : LW (pathComps (clean dest)) w)
    (hok : ((applyLayerP dest o es um).run w).1.1 = .ok) :
    ∀ (pre post : List Entry) (e : Entry), es = pre ++ e :: post →
      (IsWhiteout (clean dest) e →
        (∀ t ∈ touchedL (clean dest) post,
          ¬ t <+: pathComps (whTarget (clean dest) e) ∧ ¬ pathComps (whTarget (clean dest) e) <+: t) →
        ∀ q, under (pathComps (whTarget (clean dest) e)) q = true → ((applyLayerP dest o es um).run w).2.fs.lookup q = none) ∧
      (Ordinary dest e → FinalL dest e post →
        C05.Holds o e ((applyLayerP dest o es um).run w).2.fs (pathOfL dest e)) := by
  intro pre post e hes
  subst hes
  refine ⟨fun hwh hfree => layer_whiteout_removes dest o pre post e um w habs hsym hw hwh hfree hok, ?_⟩
  intro hord hfin
  rcases hord.typ with h | h | hnode
  · obtain ⟨e', i, n, hrem, hl, hi, hk, hdat, hpm, hmt, hown⟩ :=
      layer_reg_last_wins dest o pre post e um w habs hsym hw h hord.notMeta hord.notWh hord.notDest hfin.1
        (hfin.2 (by rw [h]; decide)) hok
    exact ⟨e', i, n, hrem, hl, hi, hpm, hmt, hown, by rw [h]; exact ⟨hk, hdat⟩⟩
  · obtain ⟨e', i, n, hrem, hl, hi, hk, hpm, hmt, hown⟩ :=
      layer_dir_last_wins dest o pre post e um w habs hsym hw h hord.notMeta hord.notWh hord.notDest hfin.1 hok
    exact ⟨e', i, n, hrem, hl, hi, hpm, hmt, hown, by rw [h]; exact hk⟩
  · obtain ⟨e', i, n, hrem, hl, hi, hk, hrd, hpm, hmt, hown⟩ :=
      layer_node_last_wins dest o pre post e um w habs hsym hw hnode huns hord.notMeta hord.notWh hord.notDest hfin.1
        (hfin.2 (by rcases hnode with h | h | h <;> rw [h] <;> decide)) hok
    refine ⟨e', i, n, hrem, hl, hi, hpm, hmt, hown, ?_⟩
    rcases hnode with h | h | h <;> rw [h] at hk hrd ⊢
    · exact ⟨hk, hrd (by decide)⟩
    · exact ⟨hk, hrd (by decide)⟩
    · exact hk

/-- … and every hard-link entry whose source is not in the staging area, and whose own path and source nothing
    later names, shares its source's object -/
theorem applyLayer_success_links_shared (dest : Str) (o : Opts) (es : List Entry) (um : Nat) (w : World)
    (habs : isAbs dest = true)
    (hsym : ∀ x ∈ es, x.typ ≠ .sym)
    (hw : LW (pathComps (clean dest)) w)
    (hok : ((applyLayerP dest o es um).run w).1.1 = .ok) :
    ∀ (pre post : List Entry) (e : Entry), es = pre ++ e :: post → e.typ = .link →
      hasPrefix (clean e.linkname) whLinkDir = false →
      hasPrefix (clean e.name) whMetaPrefix = false →
      hasPrefix (base (join (clean dest) (clean e.name))) whPrefix = false →
      pathOfL dest e ≠ pathComps (clean dest) →
      ¬ Cov (touchedL (clean dest) post) (pathOfL dest e) →
      ¬ Cov (touchedL (clean dest) post) (pathComps (join (clean dest) e.linkname)) →
      ∃ i, ((applyLayerP dest o es um).run w).2.fs.lookup (pathOfL dest e) = some i ∧
        ((applyLayerP dest o es um).run w).2.fs.lookup (pathComps (join (clean dest) e.linkname)) = some i := by
  intro pre post e hes hl hnst hmeta hnwh hne hc hcs
  subst hes
  exact layer_link_shares dest o pre post e um w habs hsym hw hl hnst hmeta hnwh hne hc hcs hok

/-- non-vacuity: the re-added `keep` of C06e is an ordinary entry with the last word on its path -/
example : Ordinary b!"/w/dest" exReadd ∧ FinalL b!"/w/dest" exReadd [] := by
  exact ⟨⟨Or.inl rfl, by decide, by decide, by decide⟩, by decide, fun _ => by decide⟩

end GA.C06
