import GA.Props.C03c

/-
  C03 for whole archives of directories and regular files: `tree_roundtrip_nodes` without devices and fifos.
-/
namespace GA.C03
open GA

/-- **any tree of directories and regular files survives tar → untar** -/
theorem tree_roundtrip (dest : Str) (fs : List FileDesc) (w : World)
    (habs : isAbs dest = true) (hw : LW (pathComps (clean dest)) w)
    (hnode : ∀ f ∈ fs, (f.st.kind = .reg ∨ f.st.kind = .dir) ∧ f.st.perm < 4096 ∧
      (f.st.kind = .reg → f.st.size = f.data.length) ∧ ∃ t, f.st.mtime = some t ∧ 0 ≤ t ∧ t ≤ 9223372036)
    (hself : ∀ f ∈ fs, f.path dest ≠ pathComps (clean dest))
    -- each path once, a directory before what lies beneath it, nothing beneath a file
    (hord : fs.Pairwise (fun a b => ¬ b.path dest <+: a.path dest ∧ (a.st.kind = .reg → ¬ a.path dest <+: b.path dest)))
    (hok : ((untarP dest {} (fs.map FileDesc.entry)).run w).1 = .ok) :
    ∀ f ∈ fs, ∃ i n, ((untarP dest {} (fs.map FileDesc.entry)).run w).2.fs.lookup (f.path dest) = some i ∧
      ((untarP dest {} (fs.map FileDesc.entry)).run w).2.fs.inode i = some n ∧
      n.kind = f.st.kind ∧ (f.st.kind = .reg → n.data = f.data) ∧ n.perm = f.st.perm ∧ n.uid = f.st.uid ∧
      n.gid = f.st.gid ∧ n.mtime = f.st.mtime := by
  intro f hf
  obtain ⟨i, n, hl, hi, hk, hd, _, hrest⟩ := tree_roundtrip_nodes dest fs w habs hw
    (fun g hg => ⟨(hnode g hg).1.elim Or.inl (fun h => Or.inr (Or.inl h)), (hnode g hg).2⟩) hself
    (hord.imp_of_mem (fun ha _ h => ⟨h.1, fun hnd => h.2 ((hnode _ ha).1.resolve_right hnd)⟩)) hok f hf
  exact ⟨i, n, hl, hi, hk, hd, hrest⟩

/-! ### non-vacuity: a set-gid directory with an old time, and a file in it -/

def exDSt (perm uid gid : Nat) (t : Int) : StatInfo :=
  { kind := .dir, perm := perm, uid := uid, gid := gid, ino := 0, nlink := 2, size := 0, rdev := (0, 0), mtime := some t }

def exTree : List FileDesc :=
  [{ name := b!"srv", st := exDSt 0o2775 7 8 500, cap := .err .ENODATA, data := [] },
   { name := b!"srv/f", st := exSt 0o640 7 8 2, cap := .err .ENODATA, data := b!"hi" }]

theorem exTree_ok : ((untarP b!"/w/dest" {} (exTree.map FileDesc.entry)).run { fs := C05.exFS2 }).1 = .ok := by decide +kernel

/-- the directory comes back with its set-gid bit and its old time although a file was created in it afterwards -/
example : ∃ i n, ((untarP b!"/w/dest" {} (exTree.map FileDesc.entry)).run { fs := C05.exFS2 }).2.fs.lookup
      [b!"w", b!"dest", b!"srv"] = some i ∧
    ((untarP b!"/w/dest" {} (exTree.map FileDesc.entry)).run { fs := C05.exFS2 }).2.fs.inode i = some n ∧
    n.kind = .dir ∧ n.perm = 0o2775 ∧ n.mtime = some 500 := by
  have hp : (exTree[0]).path b!"/w/dest" = [b!"w", b!"dest", b!"srv"] := by decide
  obtain ⟨i, n, hl, hi, hk, _, hpm, _, _, hmt⟩ := tree_roundtrip b!"/w/dest" exTree { fs := C05.exFS2 } (by decide) C05.exFS2_LW
    (by
      intro f hf; simp [exTree] at hf
      rcases hf with rfl | rfl
      · exact ⟨Or.inr rfl, by decide, (fun h => by cases h), 500, rfl, by decide, by decide⟩
      · exact ⟨Or.inl rfl, by decide, fun _ => rfl, 1000, rfl, by decide, by decide⟩)
    (by intro f hf; simp [exTree] at hf; rcases hf with rfl | rfl <;> decide)
    (by simp only [exTree, List.pairwise_cons]; refine ⟨fun b hb => ?_, ?_⟩
        · simp at hb; subst hb; exact ⟨by decide, (fun h => by cases h)⟩
        · simp)
    exTree_ok (exTree[0]) (List.getElem_mem _)
  rw [hp] at hl
  exact ⟨i, n, hl, hi, hk, hpm, hmt⟩

end GA.C03
