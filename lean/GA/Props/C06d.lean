import GA.Proofs.LayerPost
import GA.Props.C06c
/-
  C06, first clause, for whole layers: **a whiteout for X removes X and everything beneath it** — not just in
  the step that performs the removal (`C06.whiteout_removes_and_creates_nothing`) but as a statement about
  `ApplyLayer`: for every layer `pre ++ e :: post` without symbolic-link entries, every option set and every
  prior symlink-free world, if the apply reports success, `e` is a whiteout entry for `X`, and nothing that
  comes after `e` in the layer names `X`, a path beneath it or a path above it, then after the apply nothing
  exists at `X` or beneath it — whatever `pre` did, whatever was there before.

  The proof cuts the successful apply at `e` (`applyLayer_split`): the iteration of `e` ends with nothing at
  or beneath `X` (`iter_whiteout_post`); the remaining iterations create names only where their entries name
  something (the `absent_keep` clause of their frame); the end of the loop — the deferred directory times change
  no name, the clean-up only removes — adds none (`layerEnd_names`).
-/
namespace GA.C06
open GA

/-- the path a whiteout entry removes: the entry's directory joined with its base name minus `.wh.` -/
def whTarget (dest : Str) (e : Entry) : Str :=
  join (dir (join dest (clean e.name))) ((base (join dest (clean e.name))).drop whPrefix.length)

/-- `e` is a whiteout entry: its base name starts with `.wh.`, it is not the opaque marker, and its name does
    not start with the reserved `.wh..wh.` (those entries are skipped) -/
structure IsWhiteout (dest : Str) (e : Entry) : Prop where
  notGlobal : e.typ ≠ .xglobal
  notMeta : hasPrefix (clean e.name) whMetaPrefix = false
  isWh : hasPrefix (base (join dest (clean e.name))) whPrefix = true
  notOpaque : base (join dest (clean e.name)) ≠ whOpaqueDir

theorem not_covAnc_of_free (T : List Path) (X q : Path) (hfree : ∀ t ∈ T, ¬ t <+: X ∧ ¬ X <+: t)
    (hq : under X q = true) : ¬ CovAnc T q := by
  simp only [under, List.isPrefixOf_iff_prefix] at hq
  rintro (⟨t, ht, hp⟩ | ⟨t, ht, hp⟩)
  · rcases List.prefix_or_prefix_of_prefix hp hq with h | h
    · exact (hfree t ht).1 h
    · exact (hfree t ht).2 h
  · exact (hfree t ht).2 (hq.trans hp)

/-- **a whiteout for X removes X and everything beneath it** (whole layer, see the header) -/
theorem layer_whiteout_removes (dest : Str) (o : Opts) (pre post : List Entry) (e : Entry) (um : Nat) (w : World)
    (habs : isAbs dest = true)
    (hsym : ∀ x ∈ pre ++ e :: post, x.typ ≠ .sym)
    (hw : LW (pathComps (clean dest)) w)
    (hwh : IsWhiteout (clean dest) e)
    (hfree : ∀ t ∈ touchedL (clean dest) post,
      ¬ t <+: pathComps (whTarget (clean dest) e) ∧ ¬ pathComps (whTarget (clean dest) e) <+: t)
    (hok : ((applyLayerP dest o (pre ++ e :: post) um).run w).1.1 = .ok) :
    ∀ q, under (pathComps (whTarget (clean dest) e)) q = true →
      ((applyLayerP dest o (pre ++ e :: post) um).run w).2.fs.lookup q = none := by
  intro q hq
  have hd : CleanAbs (clean dest) := clean_cleanAbs dest habs
  obtain ⟨s1, w1, s2, w2, s3, w3, c1, hit, _, _, c3, hF, _, hfs⟩ := applyLayer_split dest o pre post e um w habs hsym hw hok
  have habsent := iter_whiteout_post _ (clean dest) o hd rfl e s1 w1 c1.lw hwh.notGlobal hwh.notMeta
    hwh.isWh hwh.notOpaque s2 w2 hit q hq
  rw [hfs]
  exact layerEnd_names _ (clean dest) o hd rfl s3 w3 c3.lw c3.lex q
    (hF.absent_keep q habsent (not_covAnc_of_free _ _ q hfree hq))

/-- what one iteration of `UnpackLayer` decides about an object that already exists at an ordinary entry's path:
    1 = refuse (the destination itself would be traded for a non-directory), 3 = remove it first, 0 = merge -/
def layerDecision (l : Res) (e : Entry) (self : Bool) : Nat :=
  if needRmL l e && self && e.typ != .dir then 1 else if needRmL l e then 3 else 0

/-- that decision is, case by case, the nested `if` the extractor reads out of `UnpackLayer`'s source — regenerated
    on every run; `layerIterP` branches on exactly these two tests (`needRmL`, and `p = Clean(dest)` for `self`) -/
theorem layerDecision_is_generated (s : StatInfo) (e : Entry) (self : Bool) :
    ∃ f, Facts.unpackLayerDecision? = some f ∧
      layerDecision (.stat s) e self = f (s.kind == .dir) (e.typ == .dir) self := by
  refine ⟨_, rfl, ?_⟩
  unfold layerDecision needRmL
  cases hk : (s.kind == Kind.dir) <;> cases ht : (e.typ == Typ.dir) <;> cases self <;> simp_all

/-- and nothing is refused or removed when `lstat` finds nothing -/
theorem layerDecision_absent (e : Entry) (self : Bool) (r : Res) (h : ∀ s, r ≠ .stat s) : layerDecision r e self = 0 := by
  unfold layerDecision needRmL
  cases r <;> simp_all

/-! ### non-vacuity: a layer that adds a file, whites out `keep`, and adds another file -/

def exAdd1 : Entry := { name := b!"a", typ := .reg, mode := 0o644, body := b!"1", size := 1 }
def exWh : Entry := { name := b!".wh.keep", typ := .reg }
def exAdd2 : Entry := { name := b!"b", typ := .reg, mode := 0o644, body := b!"2", size := 1 }

theorem exWh_ok : ((applyLayerP b!"/w/dest" {} ([exAdd1] ++ exWh :: [exAdd2]) 0o022).run { fs := C05.exFS2 }).1.1 = .ok := by
  decide +kernel

theorem exWh_isWhiteout : IsWhiteout (clean b!"/w/dest") exWh :=
  ⟨by decide, by decide, by decide, by decide⟩

/-- the pre-existing `/w/dest/keep` (which the plain-extraction example leaves alone) is gone after the layer -/
example : ((applyLayerP b!"/w/dest" {} ([exAdd1] ++ exWh :: [exAdd2]) 0o022).run { fs := C05.exFS2 }).2.fs.lookup
    [b!"w", b!"dest", b!"keep"] = none := by
  have hX : pathComps (whTarget (clean b!"/w/dest") exWh) = [b!"w", b!"dest", b!"keep"] := by decide
  have := layer_whiteout_removes b!"/w/dest" {} [exAdd1] [exAdd2] exWh 0o022 { fs := C05.exFS2 } (by decide)
    (by intro x hx; simp [exAdd1, exAdd2, exWh] at hx; rcases hx with rfl | rfl | rfl <;> simp)
    C05.exFS2_LW exWh_isWhiteout
    (by decide)
    exWh_ok [b!"w", b!"dest", b!"keep"] (by rw [hX]; decide)
  exact this

/-- … and it was there before -/
example : (C05.exFS2.lookup [b!"w", b!"dest", b!"keep"]).isSome = true := by decide

end GA.C06
