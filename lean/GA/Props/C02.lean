import GA.M.Guards
import GA.Generated.Facts
import GA.Proofs.Within
import GA.Proofs.DirBase
/-
  C02 — plain extraction refuses every lexically escaping entry.
  `d` is the (cleaned, absolute) destination as `untarHandler`/`applyLayerHandler` pass it on.
-/
namespace GA.C02
open GA

/-- containment by path component: `p` is `d` or beneath it -/
def Within (d p : Str) : Prop := compsOf d <+: compsOf p

theorem isWithin_iff_Within (d p : Str) (hd : CleanAbs d) (hp : CleanAbs p) :
    isWithin d p = true ↔ Within d p := by
  unfold Within
  rw [← hd.pathComps_eq_compsOf, ← hp.pathComps_eq_compsOf]
  exact isWithin_iff_prefix hd hp

theorem within_guard (d t : Str) (hd : CleanAbs d) (ht : CleanAbs t) :
    ((if isWithin d t then Guard.ok t else .breakout) = .ok t ↔ Within d t) ∧
    ((if isWithin d t then Guard.ok t else .breakout) = .breakout ↔ ¬ Within d t) := by
  rw [← isWithin_iff_Within d t hd ht]
  cases isWithin d t <;> simp

/-- `Rel` cannot fail between cleaned absolute paths, so the name guard is such a guard -/
theorem nameGuard_eq (d n : Str) (hd : CleanAbs d) :
    nameGuard d n = if isWithin d (join d (clean n)) then .ok (join d (clean n)) else .breakout := by
  obtain ⟨r, hr, _⟩ := rel_cleanAbs hd (join_cleanAbs d (clean n) hd)
  simp only [nameGuard, isWithin, hr]
  by_cases h1 : r = dotdot <;> by_cases h2 : hasPrefix r dotdotSlash = true <;> simp [h1, h2]

/-- **soundness of the name guard**: an accepted entry path is the destination or beneath it -/
theorem nameGuard_sound (d n p : Str) (hd : CleanAbs d) (h : nameGuard d n = .ok p) :
    Within d p ∧ CleanAbs p ∧ p = join d (clean n) := by
  have hp : CleanAbs (join d (clean n)) := join_cleanAbs d _ hd
  rw [nameGuard_eq d n hd] at h
  split at h
  · rename_i hw
    cases h
    exact ⟨(isWithin_iff_Within d _ hd hp).mp hw, hp, rfl⟩
  · cases h

/-- **completeness**: an entry whose path is within the destination is never refused -/
theorem nameGuard_complete (d n : Str) (hd : CleanAbs d) (h : Within d (join d (clean n))) :
    nameGuard d n = .ok (join d (clean n)) := by
  rw [nameGuard_eq d n hd]
  exact (within_guard d _ hd (join_cleanAbs d _ hd)).1.mpr h

/-- every escaping name is refused with the breakout error (never another outcome) -/
theorem nameGuard_refuses (d n : Str) (hd : CleanAbs d) (h : ¬ Within d (join d (clean n))) :
    nameGuard d n = .breakout := by
  rw [nameGuard_eq d n hd]
  exact (within_guard d _ hd (join_cleanAbs d _ hd)).2.mpr h

/-- hard-link targets: accepted ⇔ within the extraction directory -/
theorem linkGuard_iff (xd ln : Str) (hd : CleanAbs xd) :
    (linkGuard xd ln = .ok (join xd ln) ↔ Within xd (join xd ln)) ∧
    (linkGuard xd ln = .breakout ↔ ¬ Within xd (join xd ln)) :=
  within_guard xd _ hd (join_cleanAbs xd _ hd)

/-- symlink targets (relative or not, resolved against the link's directory as the code does) -/
theorem symlinkGuard_iff (p xd ln : Str) (hd : CleanAbs xd) (hp : CleanAbs p) :
    (symlinkGuard p xd ln = .ok (join (dir p) ln) ↔ Within xd (join (dir p) ln)) ∧
    (symlinkGuard p xd ln = .breakout ↔ ¬ Within xd (join (dir p) ln)) :=
  within_guard xd _ hd (join_cleanAbs _ _ (dir_cleanAbs hp).1)

/-- whiteout targets: the removed path is within the destination, or the entry is refused -/
theorem whiteoutGuard_sound (d p t : Str) (k : Nat) (hd : CleanAbs d) (hp : CleanAbs p)
    (h : whiteoutGuard d p k = .ok t) : Within d t ∧ Within d (dir p) ∧ t = join (dir p) ((base p).drop k) := by
  have hdir := (dir_cleanAbs hp).1
  have ht : CleanAbs (join (dir p) ((base p).drop k)) := join_cleanAbs _ _ hdir
  revert h
  fun_cases whiteoutGuard d p k
  -- both tests passed
  case case2 h1 _ h2 =>
    exact fun h => Guard.ok.inj h ▸
      ⟨(isWithin_iff_Within d _ hd ht).mp h2, (isWithin_iff_Within d _ hd hdir).mp (by simpa using h1), rfl⟩
  all_goals nofun

theorem whiteoutGuard_complete (d p : Str) (k : Nat) (hd : CleanAbs d) (hp : CleanAbs p)
    (h1 : Within d (dir p)) (h2 : Within d (join (dir p) ((base p).drop k))) :
    whiteoutGuard d p k = .ok (join (dir p) ((base p).drop k)) := by
  have hdir := (dir_cleanAbs hp).1
  simp [whiteoutGuard, (isWithin_iff_Within d _ hd hdir).mpr h1,
    (isWithin_iff_Within d _ hd (join_cleanAbs _ _ hdir)).mpr h2]

theorem opaqueGuard_sound (d p t : Str) (hd : CleanAbs d) (hp : CleanAbs p)
    (h : opaqueGuard d p = .ok t) : Within d t ∧ t = dir p := by
  revert h
  fun_cases opaqueGuard d p
  case case1 h1 => exact fun h => Guard.ok.inj h ▸ ⟨(isWithin_iff_Within d _ hd (dir_cleanAbs hp).1).mp h1, rfl⟩
  case case2 => nofun

/-! ### the pinned tree: the same statements are false (regression witnesses, D1 D2 D3) -/

/-- D1: the pinned name guard accepts `..` and hands out the destination's parent -/
theorem pinned_nameGuard_accepts_parent :
    nameGuardPinned b!"/a/dest" b!".." = .ok b!"/a" := by decide

/-- D2: the pinned link guard accepts a target in the sibling `dest2` -/
theorem pinned_linkGuard_accepts_sibling :
    linkGuardPinned b!"/a/dest" b!"../dest2/secret" = .ok b!"/a/dest2/secret" := by decide

/-- D3: the pinned whiteout target for `.wh...` is the destination's parent -/
theorem pinned_whiteout_removes_parent :
    whiteoutGuardPinned b!"/a/dest" b!"/a/dest/.wh..." 4 = .ok b!"/a" := by decide

/-- … and the fixed guards refuse exactly these inputs -/
theorem fixed_guards_refuse_witnesses :
    nameGuard b!"/a/dest" b!".." = .breakout ∧
    linkGuard b!"/a/dest" b!"../dest2/secret" = .breakout ∧
    whiteoutGuard b!"/a/dest" b!"/a/dest/.wh..." 4 = .breakout ∧
    nameGuard b!"/a/dest" b!"x/../y" = .ok b!"/a/dest/y" := by decide

/-- non-vacuity: a cleaned absolute destination exists -/
example : CleanAbs b!"/a/dest" :=
  ⟨[b!"a", b!"dest"], by intro c hc; simp at hc; rcases hc with rfl | rfl <;> simp [Norm, dot, dotdot], by decide⟩

/-- in the loops of `Unpack` and `UnpackLayer` the breakout decision on the entry's name comes, in the source,
    before the first call that touches the file system on the entry's behalf (implied parents, `lstat`,
    removal, creation) — regenerated on every run; the models place the guard there, and
    `C05.escaping_name_no_effect(_layer)` is what that order buys.  (In `UnpackLayer` the staging of
    `.wh..wh.plnk` files comes first: their names are reserved and they are written under a directory the
    extractor names itself.) -/
theorem guard_precedes_effects :
    Facts.unpackOrder = ["guard", "implied", "lstat", "remove", "remap", "create"] ∧
    Facts.unpackLayerOrder.filter (fun x => x = "guard" ∨ x = "implied" ∨ x = "lstat") = ["guard", "implied", "lstat"] := by
  decide

end GA.C02
