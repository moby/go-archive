import GA.Proofs.FrameLayer
import GA.Props.C05c
/-
  C06, "removes exactly what its whiteouts name": the frame of a layer apply.  `touchedL dest es` is what the
  layer names — the path of every entry, the source of every hard-link entry, the target of every whiteout,
  the directory of every opaque marker, the staging directory (and the staged copies in it).  Whatever is
  neither one of these nor beneath one is left exactly as it was: same names, same objects, same content and
  metadata (a directory on the way to a named path may have had its modification time set by the kernel) —
  for every layer without symbolic-link entries, every option set, every prior symlink-free world, whatever
  the outcome.
-/
namespace GA.C06
open GA

/-- **the frame of a plain layer apply** -/
theorem applyLayer_frame (dest : Str) (o : Opts) (es : List Entry) (oldUmask : Nat) (w : World)
    (habs : isAbs dest = true) (hsym : ∀ e ∈ es, e.typ ≠ .sym) (hw : LW (pathComps (clean dest)) w) :
    Framed (touchedL (clean dest) es) w.fs ((applyLayerP dest o es oldUmask).run w).2.fs :=
  (FrSem.run _ _ w.fs hw.inv.fresh _ _ (applyLayerP dest o es oldUmask) w (lex_applyLayer dest o es oldUmask habs hsym)
    (fr_applyLayer w.fs dest o es oldUmask habs hsym) hw (Framed.refl _ _)).1

/-- a pre-existing path that no whiteout, opaque marker or entry of the layer names or has beneath it is still
    there, bound to the same object; when that object has no covered second name its names, content and
    metadata are what they were (the modification time too unless it is a directory on the way to a named
    path) -/
theorem applyLayer_removes_only_named (dest : Str) (o : Opts) (es : List Entry) (oldUmask : Nat) (w : World)
    (habs : isAbs dest = true) (hsym : ∀ e ∈ es, e.typ ≠ .sym) (hw : LW (pathComps (clean dest)) w)
    (q : Path) (i : Ino) (hq : w.fs.lookup q = some i) (hnc : ¬ Cov (touchedL (clean dest) es) q) :
    let fs' := ((applyLayerP dest o es oldUmask).run w).2.fs
    fs'.lookup q = some i ∧
    ((∀ p, w.fs.lookup p = some i → ¬ Cov (touchedL (clean dest) es) p) →
      (∀ p, fs'.lookup p = some i ↔ w.fs.lookup p = some i) ∧
      (fs'.inode i).map eraseM = (w.fs.inode i).map eraseM ∧
      ((∀ p, w.fs.lookup p = some i → ¬ Anc (touchedL (clean dest) es) p) → fs'.inode i = w.fs.inode i)) :=
  (applyLayer_frame dest o es oldUmask w habs hsym hw).preexisting hq hnc

/-- **a layer creates nothing it does not name**: a name that exists after the layer was applied and did not
    exist before is the path of an entry, the staging directory, lies beneath one of these, or is a directory on
    the way to one — in particular a whiteout or an opaque marker creates nothing anywhere else -/
theorem applyLayer_creates_only_named (dest : Str) (o : Opts) (es : List Entry) (oldUmask : Nat) (w : World)
    (habs : isAbs dest = true) (hsym : ∀ e ∈ es, e.typ ≠ .sym) (hw : LW (pathComps (clean dest)) w)
    (q : Path) (i : Ino) (hq : ((applyLayerP dest o es oldUmask).run w).2.fs.lookup q = some i)
    (h0 : w.fs.lookup q = none) : CovAnc (touchedL (clean dest) es) q :=
  (applyLayer_frame dest o es oldUmask w habs hsym hw).new_name hq h0

/-- **a sequence of layers** applied one after the other leaves alone whatever none of them names -/
theorem applyLayers_frame (dest : Str) (o : Opts) (um : Nat) (habs : isAbs dest = true) :
    ∀ (layers : List (List Entry)) (w : World), (∀ es ∈ layers, ∀ e ∈ es, e.typ ≠ .sym) →
      LW (pathComps (clean dest)) w →
      Framed (layers.flatMap (touchedL (clean dest))) w.fs
        (layers.foldl (fun w' es => ((applyLayerP dest o es um).run w').2) w).fs
  | [], w, _, _ => Framed.refl _ _
  | es :: rest, w, hs, hw => by
    simp only [List.foldl_cons, List.flatMap_cons]
    have h1 := applyLayer_frame dest o es um w habs (hs es (by simp)) hw
    have hw1 := (C02.applyLayer_symlink_free_confined dest o es um w habs (hs es (by simp)) hw).2
    have h2 := applyLayers_frame dest o um habs rest _ (fun x hx => hs x (by simp [hx])) hw1
    exact h1.comp h2

/-- non-vacuity: a layer with a whiteout for `gone` and an opaque marker in `d` names neither `/w/dest/keep`
    nor anything above it except as an ancestor -/
example : ¬ Cov (touchedL (clean b!"/w/dest")
      [{ name := b!".wh.gone", typ := .reg }, { name := b!"d/.wh..wh..opq", typ := .reg }])
    [b!"w", b!"dest", b!"keep"] := by
  decide

end GA.C06
