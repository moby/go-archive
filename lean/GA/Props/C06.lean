import GA.Proofs.LayerAll
/-
  C06 — layer apply removes exactly what its whiteouts name (mechanism-level theorems that hold
  for every filesystem and every outcome of every system call).
  The refinement of `unpackLayerP` to a sequential whiteout specification is not proved; the
  mechanism model itself is the reference the extract stream compares the real code with.
-/
namespace GA.C06
open GA

def sumSizes (es : List Entry) : Nat := (es.map (·.size)).sum

def Good (base : Nat) (r : Out × Nat) : Prop := (r.1 = .ok → r.2 = base) ∧ (r.1 ≠ .ok → r.2 = 0)

theorem layerFinish_good (dest : Str) (st : LState) (out : Out) (base : Nat) (h : out = .ok → st.size = base) :
    (layerFinish dest st out).All (Good base) := by
  unfold layerFinish
  apply Prog.All.bind_any
  intro _
  apply Prog.All.pure
  constructor
  · intro ho
    have ho' : out = .ok := ho
    simp [ho', h ho']
  · intro ho
    have : (out == Out.ok) = false := by simpa using ho
    simp [this]

/-- **the returned size is the sum of the entries' declared sizes** (on success; 0 with any error),
    whatever the filesystem does -/
theorem layerLoop_size (dest : Str) (o : Opts) : ∀ (es : List Entry) (st : LState),
    (layerLoop dest o es st).All (Good (st.size + sumSizes es))
  | [], st => by
    rw [layerLoop]
    exact Prog.All.bind_any _ _ fun r => layerFinish_good dest st r _ fun _ => by simp [sumSizes]
  | e :: es, st0 => by
    rw [layerLoop_cons]
    refine Prog.All.bind _ _ (all_layerIter dest o e st0) fun r ⟨st, hs, he⟩ => ?_
    have hsz : (resSt r).size + sumSizes es = st0.size + sumSizes (e :: es) := by
      rw [he.size, hs.size]; simp [sumSizes]; omega
    match r, he with
    | .error (out, st'), he => exact layerFinish_good dest st' out _ fun h => absurd h he.ne_ok
    | .ok st', _ => exact hsz ▸ layerLoop_size dest o es st'

/-- `UnpackLayer` returns the sum of the declared sizes on success and 0 on any failure -/
theorem size_is_sum (dest : Str) (o : Opts) (es : List Entry) (w : World) :
    let r := ((unpackLayerP dest o es).run w).1
    (r.1 = .ok → r.2 = sumSizes es) ∧ (r.1 ≠ .ok → r.2 = 0) := by
  have := Prog.All.run _ w (layerLoop_size dest o es {})
  simpa [unpackLayerP, Good] using this

/-- … also when any system calls are refused -/
theorem size_is_sum_faults (dest : Str) (o : Opts) (es : List Entry) (w : World) (faults : Nat → Option Errno) :
    let r := ((unpackLayerP dest o es).runF faults 0 w).1
    (r.1 = .ok → r.2 = sumSizes es) ∧ (r.1 ≠ .ok → r.2 = 0) := by
  have := Prog.All.runF faults _ 0 w (layerLoop_size dest o es {})
  simpa [unpackLayerP, Good] using this

/-- **reserved-prefix metadata entries never materialise**: an entry whose cleaned name starts with
    `.wh..wh.` — other than the opaque marker and regular files of the staging area — is skipped
    without a single system call -/
theorem reserved_skipped (dest : Str) (o : Opts) (e : Entry) (es : List Entry) (st : LState)
    (h1 : hasPrefix (clean e.name) whMetaPrefix = true) (h2 : clean e.name ≠ whOpaqueDir)
    (h3 : ¬ (hasPrefix (clean e.name) whLinkDir = true ∧ e.typ = .reg)) :
    layerLoop dest o (e :: es) st = layerLoop dest o es { st with size := st.size + e.size } := by
  rw [layerLoop_eq, layerIterK]
  split
  · rfl
  · rw [stageP_skip _ _ _ _ _ (Bool.eq_false_iff.mpr fun hc => h3 (by
      simp only [Bool.and_eq_true, beq_iff_eq] at hc; exact ⟨hc.1.2, hc.2⟩))]
    exact if_pos (by simp [h1, h2])

/-- the constants the filter uses (regenerated) -/
theorem whiteout_constants :
    whPrefix = b!".wh." ∧ whMetaPrefix = b!".wh..wh." ∧ whLinkDir = b!".wh..wh.plnk" ∧ whOpaqueDir = b!".wh..wh..opq" := by
  decide

end GA.C06
