import GA.Props.C03d

/-
  C03 with character devices, block devices and named pipes among the entries (`tree_roundtrip_nodes`, C03c):
  non-vacuity — a device comes back with its type and both numbers, the minor beyond 16 bits included.
-/
namespace GA.C03
open GA

/-! ### non-vacuity: a directory with a character device 1/65536+3 and a fifo in it -/

def exNodeSt (k : Kind) (perm : Nat) (rdev : Nat × Nat) : StatInfo :=
  { kind := k, perm := perm, uid := 0, gid := 5, ino := 0, nlink := 1, size := 0, rdev := rdev, mtime := some 700 }

def exDevTree : List FileDesc :=
  [{ name := b!"dev", st := exDSt 0o755 0 0 600, cap := .err .ENODATA, data := [] },
   { name := b!"dev/tty9", st := exNodeSt .chr 0o620 (1, 65539), cap := .err .ENODATA, data := [] },
   { name := b!"dev/pipe", st := exNodeSt .fifo 0o600 (0, 0), cap := .err .ENODATA, data := [] }]

theorem exDevTree_ok : ((untarP b!"/w/dest" {} (exDevTree.map FileDesc.entry)).run { fs := C05.exFS2 }).1 = .ok := by decide +kernel

example : ∃ i n, ((untarP b!"/w/dest" {} (exDevTree.map FileDesc.entry)).run { fs := C05.exFS2 }).2.fs.lookup
      [b!"w", b!"dest", b!"dev", b!"tty9"] = some i ∧
    ((untarP b!"/w/dest" {} (exDevTree.map FileDesc.entry)).run { fs := C05.exFS2 }).2.fs.inode i = some n ∧
    n.kind = .chr ∧ n.rdev = (1, 65539) ∧ n.perm = 0o620 := by
  have hp : (exDevTree[1]).path b!"/w/dest" = [b!"w", b!"dest", b!"dev", b!"tty9"] := by decide
  obtain ⟨i, n, hl, hi, hk, _, hrd, hpm, _⟩ := tree_roundtrip_nodes b!"/w/dest" exDevTree { fs := C05.exFS2 } (by decide) C05.exFS2_LW
    (by
      intro f hf; simp [exDevTree] at hf
      rcases hf with rfl | rfl | rfl
      · exact ⟨Or.inr (Or.inl rfl), by decide, (fun h => by cases h), 600, rfl, by decide, by decide⟩
      · exact ⟨Or.inr (Or.inr (Or.inl rfl)), by decide, (fun h => by cases h), 700, rfl, by decide, by decide⟩
      · exact ⟨Or.inr (Or.inr (Or.inr (Or.inr rfl))), by decide, (fun h => by cases h), 700, rfl, by decide, by decide⟩)
    (by intro f hf; simp [exDevTree] at hf; rcases hf with rfl | rfl | rfl <;> decide)
    (by
      simp only [exDevTree, List.pairwise_cons]
      refine ⟨fun b hb => ?_, fun b hb => ?_, ?_, ?_⟩
      · simp at hb; rcases hb with rfl | rfl <;> exact ⟨by decide, (fun h => absurd rfl h)⟩
      · simp at hb; subst hb; exact ⟨by decide, (fun _ => by decide)⟩
      · intro b hb; simp at hb
      · simp)
    exDevTree_ok (exDevTree[1]) (List.getElem_mem _)
  rw [hp] at hl
  exact ⟨i, n, hl, hi, hk, hrd (Or.inl rfl), hpm⟩

end GA.C03
