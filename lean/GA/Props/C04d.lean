import GA.M.Export
import GA.Props.C04
import GA.Props.C06d
/-
  C04, the link between the two halves of a deletion: **the entry `ExportChanges` writes for a deleted path is, for
  `ApplyLayer` into any destination, a whiteout whose target is that path under the destination** — for every
  destination, every deleted path (any depth) and every point in time.  With `C06.layer_whiteout_removes` (and
  `applyLayers_whiteout_stays` for later layers) this is the deletion clause of C04 across the export → apply
  boundary: what the differ reports deleted is gone after the exported layer has been applied.
-/
namespace GA.C04
open GA

/-- `Join(dest, Clean(rel))` for a relative path of normal components is `dest` followed by those components -/
theorem join_abs_rel (ds xs : List Str) (hds : ∀ d ∈ ds, Norm d) (hxs : ∀ x ∈ xs, Norm x) (hne : xs ≠ []) :
    join (47 :: joinSlash ds) (clean (joinSlash xs)) = 47 :: joinSlash (ds ++ xs) := by
  have hrel : isAbs (joinSlash xs) = false := by
    cases xs with
    | nil => exact absurd rfl hne
    | cons x rest =>
      have hx := hxs x (by simp)
      cases x with
      | nil => exact absurd rfl hx.1
      | cons ch chs =>
        have : ch ≠ 47 := fun e => hx.2.2.2 (by simp [e])
        cases rest <;> simp [joinSlash, isAbs, this]
  obtain ⟨hc, hcomps, _⟩ := pathComps_join ds hds (clean (joinSlash xs))
  rw [fold_clean_rel _ _ hrel, splitSlash_joinSlash xs hne (fun x hx => (hxs x hx).2.2.2),
    foldl_norm true xs ds.reverse hxs] at hcomps
  have hall : ∀ x ∈ ds ++ xs, Norm x := List.forall_mem_append.mpr ⟨hds, hxs⟩
  apply cleanAbs_eq_of_comps hc ⟨_, hall, rfl⟩
  rw [hcomps, pathComps_cleanAbs _ hall]
  simp

theorem exported_whiteout_applies (ds cs : List Str) (c : Str) (now : Int)
    (hds : ∀ d ∈ ds, Norm d) (hcs : ∀ x ∈ cs, Norm x) (hc : Norm c)
    (hnopq : whPrefix ++ c ≠ whOpaqueDir)
    (hmeta : hasPrefix (clean (whiteoutHdr (47 :: joinSlash (cs ++ [c])) now).name) whMetaPrefix = false) :
    C06.IsWhiteout (47 :: joinSlash ds) (whiteoutHdr (47 :: joinSlash (cs ++ [c])) now) ∧
    pathComps (C06.whTarget (47 :: joinSlash ds) (whiteoutHdr (47 :: joinSlash (cs ++ [c])) now)) = ds ++ cs ++ [c] := by
  obtain ⟨hdir, hbase⟩ := dir_base_snoc cs c hcs hc
  have hwc := norm_wh c hc
  have hname : (whiteoutHdr (47 :: joinSlash (cs ++ [c])) now).name = joinSlash (cs ++ [whPrefix ++ c]) := by
    simp only [whiteoutHdr]
    rw [hdir, hbase, join_snoc cs (whPrefix ++ c) hcs hwc]
    rfl
  have hxs : ∀ x ∈ cs ++ [whPrefix ++ c], Norm x :=
    List.forall_mem_append.mpr ⟨hcs, List.forall_mem_singleton.mpr hwc⟩
  have hjoin : join (47 :: joinSlash ds) (clean (whiteoutHdr (47 :: joinSlash (cs ++ [c])) now).name) =
      47 :: joinSlash ((ds ++ cs) ++ [whPrefix ++ c]) := by
    rw [hname, join_abs_rel ds (cs ++ [whPrefix ++ c]) hds hxs (by simp), List.append_assoc]
  have hdcs : ∀ x ∈ ds ++ cs, Norm x := List.forall_mem_append.mpr ⟨hds, hcs⟩
  obtain ⟨hd2, hb2⟩ := dir_base_snoc (ds ++ cs) (whPrefix ++ c) hdcs hwc
  refine ⟨⟨by simp [whiteoutHdr], hmeta, ?_, ?_⟩, ?_⟩
  · rw [hjoin, hb2]; simp [hasPrefix]
  · rw [hjoin, hb2]; exact hnopq
  · unfold C06.whTarget
    rw [hjoin, hd2, hb2]
    have : (whPrefix ++ c).drop whPrefix.length = c := by simp
    rw [this, (join_child ⟨_, hdcs, rfl⟩ hc).2, pathComps_cleanAbs _ hdcs]

/-- **a reported deletion is applied**: in any layer in which the exporter's whiteout for `/cs…/c` has the last word on
    that path, a successful `ApplyLayer` into `dest` leaves nothing at or beneath `dest/cs…/c` — whatever the layer
    did before the whiteout and whatever the tree held -/
theorem exported_deletion_is_applied (ds cs : List Str) (c : Str) (now : Int) (o : Opts) (pre post : List Entry)
    (um : Nat) (w : World)
    (hds : ∀ d ∈ ds, Norm d) (hcs : ∀ x ∈ cs, Norm x) (hc : Norm c)
    (hnopq : whPrefix ++ c ≠ whOpaqueDir)
    (hmeta : hasPrefix (clean (whiteoutHdr (47 :: joinSlash (cs ++ [c])) now).name) whMetaPrefix = false)
    (hsym : ∀ x ∈ pre ++ whiteoutHdr (47 :: joinSlash (cs ++ [c])) now :: post, x.typ ≠ .sym)
    (hw : LW ds w)
    (hfree : ∀ t ∈ touchedL (47 :: joinSlash ds) post, ¬ t <+: ds ++ cs ++ [c] ∧ ¬ ds ++ cs ++ [c] <+: t)
    (hok : ((applyLayerP (47 :: joinSlash ds) o (pre ++ whiteoutHdr (47 :: joinSlash (cs ++ [c])) now :: post) um).run w).1.1 = .ok) :
    ∀ q, under (ds ++ cs ++ [c]) q = true →
      ((applyLayerP (47 :: joinSlash ds) o (pre ++ whiteoutHdr (47 :: joinSlash (cs ++ [c])) now :: post) um).run w).2.fs.lookup q = none := by
  have hdc : CleanAbs (47 :: joinSlash ds) := ⟨ds, hds, rfl⟩
  have hcl : clean (47 :: joinSlash ds) = 47 :: joinSlash ds := clean_of_cleanAbs _ hdc
  have hpc : pathComps (47 :: joinSlash ds) = ds := pathComps_cleanAbs ds hds
  obtain ⟨hwh, htgt⟩ := exported_whiteout_applies ds cs c now hds hcs hc hnopq hmeta
  have := C06.layer_whiteout_removes (47 :: joinSlash ds) o pre post (whiteoutHdr (47 :: joinSlash (cs ++ [c])) now) um w
    (by simp [isAbs]) hsym (by rw [hcl, hpc]; exact hw) (by rw [hcl]; exact hwh)
    (by rw [hcl, htgt]; exact hfree) hok
  rw [hcl, htgt] at this
  exact this

/-- non-vacuity: `/a/old` deleted, applied into `/w/dest` -/
example : pathComps (C06.whTarget b!"/w/dest" (whiteoutHdr b!"/a/old" 0)) = [b!"w", b!"dest", b!"a", b!"old"] := by
  have h := exported_whiteout_applies [b!"w", b!"dest"] [b!"a"] b!"old" 0
    (by intro d hd; simp at hd; rcases hd with rfl | rfl <;> simp [Norm, dot, dotdot])
    (by intro d hd; simp at hd; subst hd; simp [Norm, dot, dotdot])
    (by simp [Norm, dot, dotdot]) (by decide) (by decide)
  exact h.2

end GA.C04
