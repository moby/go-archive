import GA.Props.C06e
/-
  C06 / C04 over **sequences of layers**: what one layer establishes at a path stays established through all later
  layers that do not name the path.

  * `applyLayers_whiteout_stays`: layers `L1 ++ [pre ++ e :: post] ++ L2`, `e` a whiteout for `X` that has the last
    word in its own layer (and that layer's apply reports success): if no later layer names `X`, a path beneath it
    or a path above it, nothing exists at or beneath `X` after the whole sequence.
  * `applyLayers_reg_stays`: the same for a regular-file entry: if no later layer names its path, a path above or
    beneath it, a whiteout for it or a hard link to it, the path holds the entry's file after the whole sequence.

  The results of the individual applies are not part of the fold (a caller stops at the first error); the
  hypothesis is stated for the layer in question on the world the earlier layers leave.
-/
namespace GA.C06
open GA

def applyAll (dest : Str) (o : Opts) (um : Nat) (layers : List (List Entry)) (w : World) : World :=
  layers.foldl (fun w' es => ((applyLayerP dest o es um).run w').2) w

theorem applyAll_append (dest : Str) (o : Opts) (um : Nat) (a b : List (List Entry)) (w : World) :
    applyAll dest o um (a ++ b) w = applyAll dest o um b (applyAll dest o um a w) := by
  simp [applyAll, List.foldl_append]

theorem applyAll_LW (dest : Str) (o : Opts) (um : Nat) (habs : isAbs dest = true) :
    ∀ (layers : List (List Entry)) (w : World), (∀ es ∈ layers, ∀ e ∈ es, e.typ ≠ .sym) →
      LW (pathComps (clean dest)) w → LW (pathComps (clean dest)) (applyAll dest o um layers w)
  | [], w, _, hw => hw
  | es :: rest, w, hs, hw => by
    simp only [applyAll, List.foldl_cons]
    exact applyAll_LW dest o um habs rest _ (fun x hx => hs x (by simp [hx]))
      (C02.applyLayer_symlink_free_confined dest o es um w habs (hs es (by simp)) hw).2

theorem applyAll_around (dest : Str) (o : Opts) (um : Nat) (habs : isAbs dest = true)
    (L1 L2 : List (List Entry)) (es : List Entry) (w : World)
    (hsym : ∀ l ∈ L1 ++ [es] ++ L2, ∀ x ∈ l, x.typ ≠ .sym) (hw : LW (pathComps (clean dest)) w) :
    LW (pathComps (clean dest)) (applyAll dest o um L1 w) ∧
    applyAll dest o um (L1 ++ [es]) w = ((applyLayerP dest o es um).run (applyAll dest o um L1 w)).2 ∧
    Framed (L2.flatMap (touchedL (clean dest))) ((applyLayerP dest o es um).run (applyAll dest o um L1 w)).2.fs
      (applyAll dest o um (L1 ++ [es] ++ L2) w).fs := by
  have hw1 := applyAll_LW dest o um habs L1 w (fun l h => hsym l (by simp [h])) hw
  have hmid : applyAll dest o um (L1 ++ [es]) w = ((applyLayerP dest o es um).run (applyAll dest o um L1 w)).2 := by
    rw [applyAll_append]; rfl
  refine ⟨hw1, hmid, ?_⟩
  rw [applyAll_append, hmid]
  exact applyLayers_frame dest o um habs L2 _ (fun l h => hsym l (by simp [h]))
    (C02.applyLayer_symlink_free_confined dest o es um _ habs (hsym es (by simp)) hw1).2

theorem applyLayers_whiteout_stays (dest : Str) (o : Opts) (um : Nat) (L1 L2 : List (List Entry))
    (pre post : List Entry) (e : Entry) (w : World)
    (habs : isAbs dest = true)
    (hsym : ∀ es ∈ L1 ++ [pre ++ e :: post] ++ L2, ∀ x ∈ es, x.typ ≠ .sym)
    (hw : LW (pathComps (clean dest)) w)
    (hwh : IsWhiteout (clean dest) e)
    (hfree : ∀ t ∈ touchedL (clean dest) post,
      ¬ t <+: pathComps (whTarget (clean dest) e) ∧ ¬ pathComps (whTarget (clean dest) e) <+: t)
    (hlater : ∀ t ∈ L2.flatMap (touchedL (clean dest)),
      ¬ t <+: pathComps (whTarget (clean dest) e) ∧ ¬ pathComps (whTarget (clean dest) e) <+: t)
    (hok : ((applyLayerP dest o (pre ++ e :: post) um).run (applyAll dest o um L1 w)).1.1 = .ok) :
    ∀ q, under (pathComps (whTarget (clean dest) e)) q = true →
      (applyAll dest o um (L1 ++ [pre ++ e :: post] ++ L2) w).fs.lookup q = none := by
  intro q hq
  obtain ⟨hw1, _, hfr⟩ := applyAll_around dest o um habs L1 L2 _ w hsym hw
  exact hfr.absent_keep q (layer_whiteout_removes dest o pre post e um _ habs (hsym _ (by simp)) hw1 hwh hfree hok q hq)
    (not_covAnc_of_free _ _ q hlater hq)

theorem applyLayers_reg_stays (dest : Str) (o : Opts) (um : Nat) (L1 L2 : List (List Entry))
    (pre post : List Entry) (e : Entry) (w : World)
    (habs : isAbs dest = true)
    (hsym : ∀ es ∈ L1 ++ [pre ++ e :: post] ++ L2, ∀ x ∈ es, x.typ ≠ .sym)
    (hw : LW (pathComps (clean dest)) w)
    (hreg : e.typ = .reg)
    (hmeta : hasPrefix (clean e.name) whMetaPrefix = false)
    (hnwh : hasPrefix (base (join (clean dest) (clean e.name))) whPrefix = false)
    (hne : pathComps (join (clean dest) (clean e.name)) ≠ pathComps (clean dest))
    (hcov : ¬ Cov (touchedL (clean dest) post) (pathComps (join (clean dest) (clean e.name))))
    (hanc : ¬ Anc (touchedL (clean dest) post) (pathComps (join (clean dest) (clean e.name))))
    (hcovL : ¬ Cov (L2.flatMap (touchedL (clean dest))) (pathComps (join (clean dest) (clean e.name))))
    (hancL : ¬ Anc (L2.flatMap (touchedL (clean dest))) (pathComps (join (clean dest) (clean e.name))))
    (hlinks : ∀ i, (applyAll dest o um (L1 ++ [pre ++ e :: post]) w).fs.lookup (pathComps (join (clean dest) (clean e.name))) = some i →
      ∀ p, (applyAll dest o um (L1 ++ [pre ++ e :: post]) w).fs.lookup p = some i → p = pathComps (join (clean dest) (clean e.name)))
    (hok : ((applyLayerP dest o (pre ++ e :: post) um).run (applyAll dest o um L1 w)).1.1 = .ok) :
    ∃ e' i n, remapE o e = some e' ∧
      (applyAll dest o um (L1 ++ [pre ++ e :: post] ++ L2) w).fs.lookup (pathComps (join (clean dest) (clean e.name))) = some i ∧
      (applyAll dest o um (L1 ++ [pre ++ e :: post] ++ L2) w).fs.inode i = some n ∧
      n.kind = .reg ∧ n.data = e.body ∧ n.perm = e.mode &&& 0o7777 ∧ n.mtime = some (boundTime e.mtime) ∧
      (o.noLchown = false → (n.uid, n.gid) = o.chownOpts.getD (e'.uid, e'.gid)) := by
  obtain ⟨hw1, hmid, hfr⟩ := applyAll_around dest o um habs L1 L2 _ w hsym hw
  obtain ⟨e', i, n, hrem, hl, hi, hrest⟩ :=
    layer_reg_last_wins dest o pre post e um _ habs (hsym _ (by simp)) hw1 hreg hmeta hnwh hne hcov hanc hok
  rw [hmid] at hlinks
  have huniq := hlinks i hl
  have hq : QuietI (L2.flatMap (touchedL (clean dest))) ((applyLayerP dest o (pre ++ e :: post) um).run
      (applyAll dest o um L1 w)).2.fs i :=
    ⟨⟨⟨_, hl⟩, fun p hp => by rw [huniq p hp]; exact hcovL⟩, fun p hp => by rw [huniq p hp]; exact hancL⟩
  exact ⟨e', i, n, hrem, hfr.names_keep _ i hl hcovL, by rw [hfr.inode_quiet i hq]; exact hi, hrest⟩

end GA.C06
