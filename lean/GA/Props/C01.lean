import GA.M.Unpack
import GA.Proofs.NonInterf
import GA.Proofs.Programs
/-
  C01 — chrooted extraction never touches anything outside the root.
  The theorems are instances of `run_confined` (every program under a thread root is confined),
  so they hold for every archive, every destination string, every prior tree and every set of
  refused system calls.
-/
namespace GA.C01
open GA

theorem runF_jailed_aux : True := trivial

theorem jailedP_run {α : Type} (root : Str) (body : Prog α) (e : α) (w : World) (rp : Path)
    (hrp : resolve w root true = .ok rp) :
    (jailedP root body e).run w =
      match w.fs.lookup rp with
      | some i =>
        if w.fs.isDir rp then body.run { w with root := rp, fs := w.fs.modInode i (fun n => { n with mtime := none }) }
        else (e, w)
      | none => (e, w) := by
  simp only [jailedP, Prog.run, step, hrp]
  cases w.fs.lookup rp with
  | none => rfl
  | some i => cases w.fs.isDir rp <;> rfl

/-- a jailed body leaves everything outside the jail directory untouched, whatever the body is -/
theorem jailed_confined {α : Type} (root : Str) (body : Prog α) (e : α) (w : World)
    (hn : NextFresh w.fs) (rp : Path) (hrp : resolve w root true = .ok rp) :
    Confined rp w.fs ((jailedP root body e).run w).2.fs := by
  rw [jailedP_run root body e w rp hrp]
  split
  · rename_i i hi
    split
    · have hinv : Inv rp { w with root := rp, fs := w.fs.modInode i (fun n => { n with mtime := none }) } :=
        ⟨under_refl rp, by show ((w.fs.modInode i _).lookup rp).isSome = true; rw [lookup_modInode, hi]; rfl,
          hn.of_same (.modInode _ _ _ (fun _ => rfl))⟩
      exact Confined.trans (modInode_confined rp w.fs i _ rp hi (under_refl rp)) (run_confined rp body _ hinv).1
    · exact Confined.refl _ _
  · exact Confined.refl _ _

/-- the same with an arbitrary set of refused system calls inside the jail -/
theorem jailed_confined_faults {α : Type} (root : Str) (body : Prog α) (w : World)
    (faults : Nat → Option Errno) (k : Nat)
    (hn : NextFresh w.fs) (rp : Path) (hroot : w.root = rp) (hex : (w.fs.lookup rp).isSome = true) :
    Confined rp w.fs (body.runF faults k w).2.fs :=
  (runF_confined rp faults body k w ⟨by rw [hroot]; exact under_refl rp, by rw [hroot]; exact hex, hn⟩).1

/-- **chrooted layer apply** -/
theorem chrootApplyLayer_confined (dest : Str) (o : Opts) (es : List Entry) (w : World)
    (hn : NextFresh w.fs) (rp : Path) (hrp : resolve w (clean dest) true = .ok rp) :
    Confined rp w.fs ((chrootApplyLayerP dest o es).run w).2.fs :=
  jailed_confined (clean dest) _ _ w hn rp hrp

/-- **chrooted untar with a separate root** (`UntarWithRoot`, `dest ≠ root`) and
    **chrooted untar** (`Untar`, `dest = root`) into a pre-existing destination -/
theorem chrootUntar_confined (dest root : Str) (o : Opts) (es : List Entry) (w : World)
    (hn : NextFresh w.fs) (rp : Path) (hrp : resolve w root true = .ok rp)
    (hex : dest = root → isENOENT (step w (.stat (clean dest))).1 = false) :
    Confined rp w.fs ((chrootUntarP dest root o es).run w).2.fs := by
  unfold chrootUntarP
  rw [Prog.run_bind]
  have hpre : ((preJailDestP dest root o).run w).2 = w ∧
      ∃ d, ((preJailDestP dest root o).run w).1 = Except.ok d := by
    unfold preJailDestP
    split
    · rename_i heq
      simp [Prog.run, hex heq]; exact rstep_pure w (.stat _)
    · simp [Prog.run]
  obtain ⟨hw, d, hd⟩ := hpre
  rw [hw, hd]
  simp only
  unfold jailedUnpackP
  split
  · exact Confined.refl _ _
  · exact jailed_confined root _ _ w hn rp hrp

/-- the extractor, the packer and the umask change are only ever reached through `goInChroot` -/
theorem extractor_only_inside_jail :
    Facts.extractorUses = (3, 0) ∧ Facts.umaskUses = (1, 0) ∧ Facts.switchRootInSetup = true ∧
    Facts.goFailureReturns = true := by decide

/-- `goInChroot` unshares the filesystem attributes and the mount namespace -/
theorem goInChroot_unshares_fs_and_mounts :
    ∃ fl fs ns, Facts.goInChrootFlags? = some fl ∧ Facts.clonefs? = some fs ∧ Facts.clonenewns? = some ns ∧
      fl &&& fs = fs ∧ fl &&& ns = ns ∧ fs ≠ 0 ∧ ns ≠ 0 := ⟨_, _, _, rfl, rfl, rfl, by decide, by decide, by decide, by decide⟩

/-- the jail is a property of one OS thread: nothing that runs inside it (`Unpack`, `UnpackLayer`,
    `Tarballer.Do` and every function of the package they reach) starts a goroutine, which would run on a
    thread that still has the host's root -/
theorem jail_body_single_threaded :
    Facts.jailBodyRootsFound = true ∧ Facts.jailBodyGoStmts = [] := by decide

/-- how `SwitchRoot` makes the new root a jail (regenerated from `internal/mounttree` on every run): exactly one
    `pivot_root`, of the root and a directory inside it; the old root is remounted private *recursively*
    before it is detached, so the detach does not propagate to the mounts of the host; pivot, then chdir,
    then private -/
theorem switchRoot_structure :
    Facts.switchRootPivots = ["path, pivotDir"] ∧ Facts.switchRootPrivateRec = true ∧
    Facts.switchRootOrder.filter (fun x => x = "pivot" ∨ x = "chdir" ∨ x = "private") = ["pivot", "chdir", "private"] := by
  decide

/-- non-vacuity: a world where `/w` exists and resolves -/
example : ∃ w : World, NextFresh w.fs ∧ resolve w b!"/w" true = .ok [b!"w"] := by
  refine ⟨{ fs := FS.empty.create [b!"w"] { kind := .dir, perm := 0o755, uid := 0, gid := 0, mtime := some 0 } }, ?_, ?_⟩
  · exact NextFresh.create (fun p i hp => by
      simp [FS.empty, FS.lookup] at hp
      obtain ⟨_, rfl⟩ := hp
      decide) _ _ (by decide)
  · decide

end GA.C01
