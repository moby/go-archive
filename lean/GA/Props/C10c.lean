import GA.Props.C10b
/-
  C10 / C09 — "consists of exactly": every path is reported at most once.  `Changes` returns a list, and
  `ExportChanges` writes one tar entry per element, so a path reported twice would appear twice in the
  exported layer (C09: "each path appears at most once").  Proved for the model of `addChanges` for all
  trees whose sibling names are distinct (old and new) and every order of the children lists; the flag
  `marked` (Go: `info.added`) is what keeps a directory that changed itself *and* has a change beneath it
  from being reported twice (`marked_below`, used in `apart_kids`).
-/
namespace GA.TreeDiff
open GA

/-- **every path is reported at most once** -/
theorem changes_paths_nodup (new old : Info) (hn : new.WF) (ho : old.WF) :
    ((changes new old).map Change.path).Nodup := by
  rw [List.nodup_iff_pairwise_ne, List.pairwise_map]
  exact (apart_main True new hn [] (some old) false (fun _ o e => by cases e; exact ho)).imp
    (fun {a b} h (e : a.path = b.path) => (h (e ▸ List.prefix_refl _)).1 trivial)

/-- the defect the flag prevents, on the model: without it a directory that changed itself and has a change
    beneath it would be reported twice (here: it is reported once) -/
example : ((changes exNew exOld).map Change.path).Nodup := by decide

end GA.TreeDiff
