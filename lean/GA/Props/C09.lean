import GA.M.Export
import GA.Proofs.PackAll
import GA.Props.C07
/-
  C09 — produced archives are canonical, self-consistent and reproducible (structure of the
  entry list the walker emits; the byte encoding is archive/tar's).
  The theorems hold for every filesystem and every outcome of every system call (`RProg.All`).
-/
namespace GA.C09
open GA

/-- in an emitted list (latest first) every link entry names an earlier entry that is not a link -/
def LinksOK : List Entry → Prop
  | [] => True
  | e :: older => (e.typ = .link → ∃ t ∈ older, t.name = e.linkname ∧ t.typ ≠ .link) ∧ LinksOK older

structure StInv (st : PackState) : Prop where
  dirSlash : ∀ e ∈ st.out, e.typ = .dir → hasSuffix e.name slashStr = true
  links : LinksOK st.out
  seen : ∀ x ∈ st.seenInodes, ∃ t ∈ st.out, t.name = x.2 ∧ t.typ ≠ .link

theorem canonical_dir (name : Str) : hasSuffix (canonicalTarName name true) slashStr = true := by
  unfold canonicalTarName
  by_cases h : hasSuffix name slashStr = true
  · simp [h]
  · have h' : hasSuffix name slashStr = false := by simpa using h
    simp only [h', Bool.not_false, Bool.and_true, if_true]
    simp [hasSuffix, slashStr]

theorem canonical_nondir (name : Str) : canonicalTarName name false = name := by simp [canonicalTarName]

theorem typOfKind_ne_link (k : Kind) : typOfKind k ≠ .link := by cases k <;> simp [typOfKind]

theorem typOfKind_dir (k : Kind) : typOfKind k = .dir ↔ k = .dir := by cases k <;> simp [typOfKind]

theorem StInv.push {st : PackState} (h : StInv st) (e : Entry)
    (hd : e.typ = .dir → hasSuffix e.name slashStr = true)
    (hl : e.typ = .link → ∃ t ∈ st.out, t.name = e.linkname ∧ t.typ ≠ .link) :
    StInv { st with out := e :: st.out } :=
  ⟨fun x hx => by simp at hx; rcases hx with rfl | hx; exact hd; exact h.dirSlash x hx,
   ⟨hl, h.links⟩,
   fun x hx => by obtain ⟨t, ht, h1, h2⟩ := h.seen x hx; exact ⟨t, by simp [ht], h1, h2⟩⟩

theorem buildHeader_typ (name : Str) (s : StatInfo) (link : Str) (capR : Res) :
    (buildHeader name s link capR).typ = typOfKind s.kind ∧
    (buildHeader name s link capR).name = canonicalTarName name (s.kind == .dir) := ⟨rfl, rfl⟩

/-- **one `addTarFile` keeps the archive self-consistent** (default whiteout format): directory
    names end in "/", every hard-link entry follows, and names, an earlier non-link entry, and
    every remembered inode has such an entry — for every ID mapping (an entry left out for an
    untranslatable owner is forgotten again: fix D22) -/
theorem addTarFile_inv (o : PackOpts) (st : PackState) (path name : Str) (h : StInv st) (hov : o.overlay = false) :
    (addTarFileP o st path name).All StInv := by
  refine addTarFileP_all o st path name h (fun s link capR => ?_)
  fun_cases afterStatP o st path name s link capR
  case case1 => exact h
  case case2 ho => exact absurd ho (Bool.eq_false_iff.mp hov)
  case case3 hdr0 ls u g _ hdr2 _ =>
    refine RProg.All.mono ?_ _ (emitP_all _ path _)
    rintro st' ⟨body, rfl⟩
    unfold hdr2 ls
    fun_cases linkStage st name s hdr0
    case case1 ino old hf =>
      -- a later name of a remembered inode: a link entry naming the entry remembered for it
      obtain ⟨t, ht, htn, htl⟩ := h.seen (ino, old) (List.mem_of_find?_eq_some hf)
      exact h.push _ nofun (fun _ => ⟨t, ht, htn, htl⟩)
    case case2 hl _ =>
      -- first name of an inode: the entry just written is what is remembered for it
      have hnd : s.kind ≠ .dir := by intro e; rw [e] at hl; simp at hl
      have hname : hdr0.name = name := by
        simp only [hdr0, buildHeader, show (s.kind == Kind.dir) = false by simpa using hnd, canonical_nondir]
      have hp := (h.push { hdr0 with uid := u, gid := g, body := body }
        (fun hd => absurd ((typOfKind_dir s.kind).mp hd) hnd) (fun hlk => absurd hlk (typOfKind_ne_link _)))
      refine ⟨hp.dirSlash, hp.links, fun x hx => ?_⟩
      rcases List.mem_cons.mp hx with rfl | hx
      · exact ⟨_, List.mem_cons_self, hname, typOfKind_ne_link _⟩
      · exact hp.seen x hx
    case case3 =>
      -- a directory, or a single name: no bookkeeping
      refine h.push _ (fun hd => ?_) (fun hlk => absurd hlk (typOfKind_ne_link _))
      simp only [hdr0, buildHeader, (typOfKind_dir s.kind).mp hd, beq_self_eq_true]
      exact canonical_dir name

/- `StInv` does not speak of `seenNames`, so its three fields hold as they are of the state in which the walk has
   recorded the new name: `⟨h.dirSlash, h.links, h.seen⟩` is `h` at that state. -/
theorem walk_inv (o : PackOpts) (src inc : Str) (hov : o.overlay = false) :
    ∀ (items : List (Str × Kind × Nat)) (ws : WalkSt) (st : PackState), StInv st →
      (walkP o src inc items ws st).All StInv :=
  walkP_all o src (fun _ _ _ _ h _ => addTarFile_inv o _ _ _ ⟨h.dirSlash, h.links, h.seen⟩ hov) inc

theorem includes_inv (o : PackOpts) (src : Str) (hov : o.overlay = false) :
    ∀ (incs : List Str) (st : PackState), StInv st → (includesP o src incs st).All StInv :=
  includesP_all o src (fun _ _ _ _ h _ => addTarFile_inv o _ _ _ ⟨h.dirSlash, h.links, h.seen⟩ hov)

theorem linksOK_reverse_spec : ∀ (out : List Entry), LinksOK out →
    ∀ (i : Nat) (e : Entry), out.reverse[i]? = some e → e.typ = .link →
      ∃ j t, j < i ∧ out.reverse[j]? = some t ∧ t.name = e.linkname ∧ t.typ ≠ .link := by
  intro out
  induction out with
  | nil => intro _ i e h; simp at h
  | cons x xs ih =>
    intro hl i e hi hty
    simp only [List.reverse_cons] at hi ⊢
    by_cases hlt : i < xs.reverse.length
    · rw [List.getElem?_append_left hlt] at hi
      obtain ⟨j, t, hj, ht, h1, h2⟩ := ih hl.2 i e hi hty
      exact ⟨j, t, hj, by rw [List.getElem?_append_left (by omega)]; exact ht, h1, h2⟩
    · have hi' : i = xs.reverse.length := by
        have := List.getElem?_eq_some_iff.mp hi
        obtain ⟨hlen, _⟩ := this
        simp only [List.length_append, List.length_reverse, List.length_cons, List.length_nil] at hlen hlt ⊢
        omega
      subst hi'
      simp at hi
      subst hi
      obtain ⟨t, ht, h1, h2⟩ := hl.1 hty
      have htr : t ∈ xs.reverse := by simpa using ht
      obtain ⟨j, hj⟩ := List.getElem?_of_mem htr
      have hjl : j < xs.reverse.length := by
        have := List.getElem?_eq_some_iff.mp hj; exact this.1
      exact ⟨j, t, hjl, by rw [List.getElem?_append_left hjl]; exact hj, h1, h2⟩

/-- the two claims about a finished archive, oldest entry first -/
def Consistent (es : List Entry) : Prop :=
  (∀ e ∈ es, e.typ = .dir → hasSuffix e.name slashStr = true) ∧
  (∀ (i : Nat) (e : Entry), es[i]? = some e → e.typ = .link →
    ∃ j t, j < i ∧ es[j]? = some t ∧ t.name = e.linkname ∧ t.typ ≠ .link)

theorem StInv.consistent {st : PackState} (h : StInv st) : Consistent st.out.reverse :=
  ⟨fun e he => h.dirSlash e (by simpa using he), linksOK_reverse_spec st.out h.links⟩

theorem StInv.empty : StInv ({} : PackState) := ⟨by simp, trivial, by simp⟩

/-- **every archive `TarWithOptions` produces, on any filesystem**: a directory's name ends in "/",
    and every hard-link entry follows, and names, an earlier entry that is not itself a link -/
theorem tar_self_consistent (src : Str) (o : PackOpts) (w : World) (hov : o.overlay = false) :
    let es := ((tarP src o).run w).1
    (∀ e ∈ es, e.typ = .dir → hasSuffix e.name slashStr = true) ∧
    (∀ (i : Nat) (e : Entry), es[i]? = some e → e.typ = .link →
      ∃ j t, j < i ∧ es[j]? = some t ∧ t.name = e.linkname ∧ t.typ ≠ .link) := by
  refine RProg.All.run (P := Consistent) (tarR src o) w (fun r => ?_)
  cases r with
  | stat s => exact RProg.All.bind _ _ (includes_inv o _ hov _ {} .empty) (fun _ hst => hst.consistent)
  | _ => exact StInv.empty.consistent

theorem export_inv (o : PackOpts) (dirS : Str) (now : Int) (hov : o.overlay = false) :
    ∀ (cs : List Change) (st : PackState), StInv st → (exportLoop o dirS now cs st).All StInv := by
  intro cs st
  fun_induction exportLoop o dirS now cs st
  case case1 => exact id
  case case2 ih => exact fun h => ih (h.push _ nofun nofun)
  case case3 ih => exact fun h => RProg.All.bind _ _ (addTarFile_inv o _ _ _ h hov) ih

/-- **every layer `ExportChanges` produces, for every change list, ID map, clock value and filesystem**:
    directory names end in "/", and every hard-link entry follows, and names, an earlier non-link
    entry of the same archive -/
theorem export_self_consistent (dirS : Str) (changes : List Change) (um gm : List IDRange) (now : Int) (w : World) :
    let es := ((exportP dirS changes um gm now).run w).1
    (∀ e ∈ es, e.typ = .dir → hasSuffix e.name slashStr = true) ∧
    (∀ (i : Nat) (e : Entry), es[i]? = some e → e.typ = .link →
      ∃ j t, j < i ∧ es[j]? = some t ∧ t.name = e.linkname ∧ t.typ ≠ .link) :=
  RProg.All.run (P := Consistent) (exportR dirS changes um gm now) w
    (RProg.All.bind _ _ (export_inv _ dirS now rfl _ {} .empty) (fun _ hst => hst.consistent))

/-- a deletion marker is a plain empty file named by the whiteout prefix; it never carries data -/
theorem whiteoutHdr_shape (path : Str) (now : Int) :
    (whiteoutHdr path now).typ = .reg ∧ (whiteoutHdr path now).size = 0 ∧ (whiteoutHdr path now).body = [] ∧
    (whiteoutHdr path now).mtime = now := ⟨rfl, rfl, rfl, rfl⟩

/-! ### reproducibility: the producers consult no clock, no random source and no map order -/

theorem pack_deterministic_sources :
    Facts.packRangeExprs = ["t.options.IncludeFiles", "t.pm.Patterns()"] ∧ Facts.packClockCalls = 0 ∧
    Facts.exportRangeExprs = ["changes"] ∧ Facts.exportClockCalls = 1 := ⟨rfl, rfl, rfl, rfl⟩

/-- in the model the archive is a function of the options and the filesystem — nothing else -/
theorem tar_reproducible (src : Str) (o : PackOpts) (w : World) :
    ((tarP src o).run w).1 = ((tarP src o).run ((tarP src o).run w).2).1 := by
  rw [C07.tar_reads_only]

end GA.C09
