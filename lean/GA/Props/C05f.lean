import GA.Proofs.UnpackLast
/-
  C05, the named half for device and fifo entries (outside a user namespace): the last entry wins — same
  statement and same proof architecture as `untar_reg_last_wins`; the per-iteration fact is `iter_node_post`
  (`mknod` refuses an existing name, so success means a fresh inode with one name).
-/
namespace GA.C05
open GA

theorem untar_node_last_wins (dest : Str) (o : Opts) (pre post : List Entry) (e : Entry) (w : World)
    (habs : isAbs dest = true) (hov : o.overlay = false)
    (hsym : ∀ x ∈ pre ++ e :: post, x.typ ≠ .sym)
    (hw : LW (pathComps (clean dest)) w)
    (hnode : e.typ = .chr ∨ e.typ = .blk ∨ e.typ = .fifo) (huns : o.inUserNS = false)
    (hnx : o.excludes.any (fun x => hasPrefix (clean e.name) x) = false)
    (hne : pathComps (join (clean dest) (clean e.name)) ≠ pathComps (clean dest))
    (hcov : ¬ Cov (touched (clean dest) post) (pathComps (join (clean dest) (clean e.name))))
    (hanc : ¬ Anc (touched (clean dest) post) (pathComps (join (clean dest) (clean e.name))))
    (hok : ((untarP dest o (pre ++ e :: post)).run w).1 = .ok) :
    ∃ e' i n, remapE o e = some e' ∧
      ((untarP dest o (pre ++ e :: post)).run w).2.fs.lookup (pathComps (join (clean dest) (clean e.name))) = some i ∧
      ((untarP dest o (pre ++ e :: post)).run w).2.fs.inode i = some n ∧
      n.kind = kindOfTyp e.typ ∧ (e.typ ≠ .fifo → n.rdev = (e.devmajor, e.devminor)) ∧
      n.perm = e.mode &&& 0o7777 ∧ n.mtime = some (boundTime e.mtime) ∧
      (o.noLchown = false → (n.uid, n.gid) = o.chownOpts.getD (e'.uid, e'.gid)) := by
  have hd : CleanAbs (clean dest) := clean_cleanAbs dest habs
  obtain ⟨i, n, hl, hi, e', hrem, hfin⟩ := unpackLoop_entry_kept _ (clean dest) o hd rfl hov pre post e [] w hsym hw
    (fun _ h => by cases h) hcov hanc hok (fun n => ∃ e', remapE o e = some e' ∧ NodeFinal e' o n)
    (fun d1 w1 d2 w2 hw1 hit => by
      obtain ⟨_, _, e', i, n, hrem, hl, huniq, hi, hfin⟩ :=
        iter_node_post _ (clean dest) o hd rfl hov huns e d1 w1 hw1 hnode hnx hne d2 w2 hit
      refine ⟨i, n, hl, huniq, hi, ?_, e', hrem, hfin⟩
      rw [hfin.1, remapE_typ o e e' hrem]
      rcases hnode with h | h | h <;> rw [h] <;> decide)
  obtain ⟨u, g, rfl⟩ := remapE_eq o e e' hrem
  exact ⟨_, i, n, hrem, hl, hi, hfin⟩

end GA.C05
