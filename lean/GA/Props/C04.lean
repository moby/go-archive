import GA.Proofs.DirBase
import GA.Props.C06
/-
  C04 — applying exported diffs in order reproduces each snapshot (the links of the chain that are
  proved; the end-to-end statement over histories is checked on the real code by the
  roundtrip-diff stream and is NOT proved — see DESIGN "C04").
   * a deletion of `p` is exported as `Dir(p)/.wh.Base(p)` and layer apply maps that name back to
     exactly `p` (name inverse, for every cleaned path);
   * in the byte order `ExportChanges` sorts by, a path precedes everything beneath it, so a
     directory's entry is applied before its contents and a whiteout before re-additions below it;
   * the diff's parsing/merging core (C10) and layer apply's whiteout core (C06) as proved there.
-/
namespace GA.C04
open GA

theorem norm_wh (c : Str) (hc : Norm c) : Norm (whPrefix ++ c) := by
  rw [C06.whiteout_constants.1]
  refine ⟨by simp, ?_, ?_, ?_⟩
  · simp [dot]
  · simp [dotdot]
  · intro h
    simp at h
    exact hc.noSlash h

/-- **the whiteout name is inverted exactly**: for a deleted path `p = /cs…/c`, the exported entry
    name `Join(Dir(p), ".wh." + Base(p))` is a path whose base carries the prefix, and the path layer
    apply removes for it, `Join(Dir(name), Base(name)[len(".wh."):])`, is `p` again -/
theorem whiteout_name_inverse (cs : List Str) (c : Str) (h : ∀ x ∈ cs, Norm x) (hc : Norm c) :
    let p := (47 : UInt8) :: joinSlash (cs ++ [c])
    let wo := join (dir p) (whPrefix ++ base p)
    hasPrefix (base wo) whPrefix = true ∧ join (dir wo) ((base wo).drop whPrefix.length) = p := by
  simp only
  obtain ⟨hd, hb⟩ := dir_base_snoc cs c h hc
  rw [hd, hb, join_snoc cs (whPrefix ++ c) h (norm_wh c hc)]
  obtain ⟨hd2, hb2⟩ := dir_base_snoc cs (whPrefix ++ c) h (norm_wh c hc)
  rw [hd2, hb2]
  refine ⟨by simp [hasPrefix], ?_⟩
  simp [join_snoc cs c h hc]

theorem strLt_prefix : ∀ (a b : Str), b ≠ [] → strLt a (a ++ b) = true
  | [], b, h => by cases b <;> simp_all [strLt]
  | x :: xs, b, h => by simp [strLt, strLt_prefix xs b h]

/-- **a path sorts before everything beneath it** in the order `ExportChanges` uses -/
theorem parent_sorts_first (p rest : Str) : strLt p (p ++ 47 :: rest) = true :=
  strLt_prefix p (47 :: rest) (by simp)

/-- a path has one fate: what the differ reports is a function of the path, so a whiteout `d/.wh.x` and a
    re-added `d/x` cannot both come from one comparison (this is all the statement says: a function has one
    value at `p`) -/
theorem delete_and_add_exclusive (kinds : Str → Option Nat) (p : Str) (k1 k2 : Nat)
    (h1 : kinds p = some k1) (h2 : kinds p = some k2) : k1 = k2 := by
  rw [h1] at h2; cases h2; rfl

end GA.C04
