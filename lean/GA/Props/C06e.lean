import GA.Proofs.LayerEntry
import GA.Props.C06d
/-
  C06, "all other entries behave as in plain extraction", for whole layers and regular files: **the last entry
  wins**.  For every layer `pre ++ e :: post` without symbolic-link entries, every option set and every prior
  symlink-free world: if `ApplyLayer` reports success, `e` is a regular-file entry whose name is neither
  reserved, a whiteout nor the destination itself, and nothing after `e` in the layer names the same path, a
  path above or beneath it, a whiteout for it, or a hard link to it (and the path is not at, beneath or above the
  staging directory), then afterwards the path names a regular file with exactly `e`'s content, all twelve
  mode bits, the clamped modification time and — unless `NoLchown` — the translated or overriding owner.
  Whatever `pre` did there — created it, whited it out, put a directory there — does not matter.
-/
namespace GA.C06
open GA

/-- the skeleton shared by the non-directory cases: what the iteration of `e` leaves at its path — a fresh object
    with that one name, not a directory, satisfying `R` — is what `ApplyLayer` leaves there, when nothing after
    `e` names the path, a path above or beneath it, a whiteout for it or a hard link to it -/
theorem layer_entry_kept (R : Inode → Prop) (dest : Str) (o : Opts) (pre post : List Entry) (e : Entry) (um : Nat) (w : World)
    (habs : isAbs dest = true)
    (hsym : ∀ x ∈ pre ++ e :: post, x.typ ≠ .sym)
    (hw : LW (pathComps (clean dest)) w)
    (hcov : ¬ Cov (touchedL (clean dest) post) (pathComps (join (clean dest) (clean e.name))))
    (hanc : ¬ Anc (touchedL (clean dest) post) (pathComps (join (clean dest) (clean e.name))))
    (hpost : ∀ s1 w1 s2 w2, LW (pathComps (clean dest)) w1 → (layerIterP (clean dest) o e s1).run w1 = (.ok s2, w2) →
      LW (pathComps (clean dest)) w2 ∧ ∃ i n, w2.fs.lookup (pathComps (join (clean dest) (clean e.name))) = some i ∧
        (∀ q, w2.fs.lookup q = some i → q = pathComps (join (clean dest) (clean e.name))) ∧
        w2.fs.inode i = some n ∧ n.kind ≠ .dir ∧ R n)
    (hok : ((applyLayerP dest o (pre ++ e :: post) um).run w).1.1 = .ok) :
    ∃ i n,
      ((applyLayerP dest o (pre ++ e :: post) um).run w).2.fs.lookup (pathComps (join (clean dest) (clean e.name))) = some i ∧
      ((applyLayerP dest o (pre ++ e :: post) um).run w).2.fs.inode i = some n ∧ R n := by
  have hd : CleanAbs (clean dest) := clean_cleanAbs dest habs
  obtain ⟨s1, w1, s2, w2, s3, w3, c1, hit, _, _, c3, hF, _, hfs⟩ := applyLayer_split dest o pre post e um w habs hsym hw hok
  obtain ⟨_, i, n, hl2, huniq, hi2, hk, hR⟩ := hpost s1 w1 s2 w2 c1.lw hit
  obtain ⟨hl3, hu3, _, hi3⟩ := hF.sole hl2 huniq hcov
  obtain ⟨hl4, hi4⟩ := layerEnd_quiet _ (clean dest) o hd rfl s3 w3 c3.lw c3.lex c3.fr i n _ hl3 ((hi3 hanc).trans hi2) hk hu3
    (fun h => hcov (cov_mono (tmp_mem_touchedL _ _) h)) (fun h => hanc (anc_mono (tmp_mem_touchedL _ _) h))
  rw [hfs]
  exact ⟨i, n, hl4, hi4, hR⟩

theorem layer_reg_last_wins (dest : Str) (o : Opts) (pre post : List Entry) (e : Entry) (um : Nat) (w : World)
    (habs : isAbs dest = true)
    (hsym : ∀ x ∈ pre ++ e :: post, x.typ ≠ .sym)
    (hw : LW (pathComps (clean dest)) w)
    (hreg : e.typ = .reg)
    (hmeta : hasPrefix (clean e.name) whMetaPrefix = false)
    (hnwh : hasPrefix (base (join (clean dest) (clean e.name))) whPrefix = false)
    (hne : pathComps (join (clean dest) (clean e.name)) ≠ pathComps (clean dest))
    (hcov : ¬ Cov (touchedL (clean dest) post) (pathComps (join (clean dest) (clean e.name))))
    (hanc : ¬ Anc (touchedL (clean dest) post) (pathComps (join (clean dest) (clean e.name))))
    (hok : ((applyLayerP dest o (pre ++ e :: post) um).run w).1.1 = .ok) :
    ∃ e' i n, remapE o e = some e' ∧
      ((applyLayerP dest o (pre ++ e :: post) um).run w).2.fs.lookup (pathComps (join (clean dest) (clean e.name))) = some i ∧
      ((applyLayerP dest o (pre ++ e :: post) um).run w).2.fs.inode i = some n ∧
      n.kind = .reg ∧ n.data = e.body ∧ n.perm = e.mode &&& 0o7777 ∧ n.mtime = some (boundTime e.mtime) ∧
      (o.noLchown = false → (n.uid, n.gid) = o.chownOpts.getD (e'.uid, e'.gid)) := by
  have hd : CleanAbs (clean dest) := clean_cleanAbs dest habs
  have := layer_entry_kept (fun n => ∃ e', remapE o e = some e' ∧ RegFinal e' o n) dest o pre post e um w habs hsym hw hcov hanc
    (fun s1 w1 s2 w2 hw1 hit => by
      obtain ⟨_, hw2, e', i, n, hrem, hl2, huniq, hi2, hfin⟩ :=
        iterL_reg_post _ (clean dest) o hd rfl e s1 w1 hw1 hreg hmeta hnwh hne s2 w2 hit
      exact ⟨hw2, i, n, hl2, huniq, hi2, (by rw [hfin.1]; intro h; cases h), e', hrem, hfin⟩) hok
  obtain ⟨i, n, hl, hi, e', hrem, hfin⟩ := this
  obtain ⟨u, g, rfl⟩ := remapE_eq o e e' hrem
  exact ⟨_, i, n, hrem, hl, hi, hfin⟩

/-- the same for device and fifo entries (outside a user namespace) -/
theorem layer_node_last_wins (dest : Str) (o : Opts) (pre post : List Entry) (e : Entry) (um : Nat) (w : World)
    (habs : isAbs dest = true)
    (hsym : ∀ x ∈ pre ++ e :: post, x.typ ≠ .sym)
    (hw : LW (pathComps (clean dest)) w)
    (hnode : e.typ = .chr ∨ e.typ = .blk ∨ e.typ = .fifo) (huns : o.inUserNS = false)
    (hmeta : hasPrefix (clean e.name) whMetaPrefix = false)
    (hnwh : hasPrefix (base (join (clean dest) (clean e.name))) whPrefix = false)
    (hne : pathComps (join (clean dest) (clean e.name)) ≠ pathComps (clean dest))
    (hcov : ¬ Cov (touchedL (clean dest) post) (pathComps (join (clean dest) (clean e.name))))
    (hanc : ¬ Anc (touchedL (clean dest) post) (pathComps (join (clean dest) (clean e.name))))
    (hok : ((applyLayerP dest o (pre ++ e :: post) um).run w).1.1 = .ok) :
    ∃ e' i n, remapE o e = some e' ∧
      ((applyLayerP dest o (pre ++ e :: post) um).run w).2.fs.lookup (pathComps (join (clean dest) (clean e.name))) = some i ∧
      ((applyLayerP dest o (pre ++ e :: post) um).run w).2.fs.inode i = some n ∧
      n.kind = kindOfTyp e.typ ∧ (e.typ ≠ .fifo → n.rdev = (e.devmajor, e.devminor)) ∧
      n.perm = e.mode &&& 0o7777 ∧ n.mtime = some (boundTime e.mtime) ∧
      (o.noLchown = false → (n.uid, n.gid) = o.chownOpts.getD (e'.uid, e'.gid)) := by
  have hd : CleanAbs (clean dest) := clean_cleanAbs dest habs
  have := layer_entry_kept (fun n => ∃ e', remapE o e = some e' ∧ NodeFinal e' o n) dest o pre post e um w habs hsym hw hcov hanc
    (fun s1 w1 s2 w2 hw1 hit => by
      obtain ⟨_, hw2, e', i, n, hrem, hl2, huniq, hi2, hfin⟩ :=
        iterL_node_post _ (clean dest) o hd rfl huns e s1 w1 hw1 hnode hmeta hnwh hne s2 w2 hit
      refine ⟨hw2, i, n, hl2, huniq, hi2, ?_, e', hrem, hfin⟩
      rw [hfin.1, remapE_typ o e e' hrem]
      rcases hnode with h | h | h <;> rw [h] <;> decide) hok
  obtain ⟨i, n, hl, hi, e', hrem, hfin⟩ := this
  obtain ⟨u, g, rfl⟩ := remapE_eq o e e' hrem
  exact ⟨_, i, n, hrem, hl, hi, hfin⟩

/-! ### non-vacuity: whiteout for `keep`, then a new regular file `keep` in the same layer -/

def exReadd : Entry := { name := b!"keep", typ := .reg, mode := 0o4711, mtime := 3000, body := b!"new", size := 3 }

theorem exReadd_ok : ((applyLayerP b!"/w/dest" {} ([exWh] ++ exReadd :: []) 0o022).run { fs := C05.exFS2 }).1.1 = .ok := by
  decide +kernel

/-- whiteout + re-add in this order: the path holds the new file, with all twelve mode bits -/
example : ∃ i n, ((applyLayerP b!"/w/dest" {} ([exWh] ++ exReadd :: []) 0o022).run { fs := C05.exFS2 }).2.fs.lookup
      [b!"w", b!"dest", b!"keep"] = some i ∧
    ((applyLayerP b!"/w/dest" {} ([exWh] ++ exReadd :: []) 0o022).run { fs := C05.exFS2 }).2.fs.inode i = some n ∧
    n.kind = .reg ∧ n.data = b!"new" ∧ n.perm = 0o4711 ∧ n.mtime = some 3000 := by
  have hP : pathComps (join (clean b!"/w/dest") (clean exReadd.name)) = [b!"w", b!"dest", b!"keep"] := by decide
  obtain ⟨e', i, n, _, hl, hi, hk, hdt, hpm, hmt, _⟩ := layer_reg_last_wins b!"/w/dest" {} [exWh] [] exReadd 0o022
    { fs := C05.exFS2 } (by decide)
    (by intro x hx; simp [exWh, exReadd] at hx; rcases hx with rfl | rfl <;> simp)
    C05.exFS2_LW rfl (by decide) (by decide) (by rw [hP]; decide)
    (by decide) (by decide)
    exReadd_ok
  rw [hP] at hl
  exact ⟨i, n, hl, hi, hk, hdt, by rw [hpm]; decide, by rw [hmt]; decide⟩

end GA.C06
