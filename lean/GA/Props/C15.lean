import GA.M.Rewrite
import GA.Props.C14
/-
  C15 — archive rewriters preserve everything they do not target.
-/
namespace GA.C15
open GA GA.Rewrite

/-- **rebase keeps the number and order of entries and every field but the name (and the link
    name of hard links)** -/
theorem rebase_preserves_others (old new : Str) (s : Stream) :
    (rebaseM old new s).1.length = s.1.length ∧
    ∀ (i : Nat) (e : Entry), s.1[i]? = some e →
      ∃ e', (rebaseM old new s).1[i]? = some e' ∧ e'.typ = e.typ ∧ e'.mode = e.mode ∧ e'.uid = e.uid ∧ e'.gid = e.gid ∧
        e'.mtime = e.mtime ∧ e'.size = e.size ∧ e'.body = e.body ∧ e'.xattrs = e.xattrs ∧
        e'.devmajor = e.devmajor ∧ e'.devminor = e.devminor ∧
        e'.name = replaceFirst e.name (normOld old) new ∧
        (e.typ ≠ .link → e'.linkname = e.linkname) := by
  constructor
  · simp [rebaseM]
  · intro i e h
    refine ⟨rebaseEntry old new e, by simp [rebaseM, h], rfl, rfl, rfl, rfl, rfl, rfl, rfl, rfl, rfl, rfl, rfl, ?_⟩
    intro hne
    have : (e.typ == .link) = false := by simpa using hne
    simp [rebaseEntry, this]

/-- a name that begins with the old base is renamed in that leading occurrence only -/
theorem rebase_leading_only (old new rest : Str) (e : Entry) (h : e.name = normOld old ++ rest) :
    (rebaseEntry old new e).name = new ++ rest := by
  simp only [rebaseEntry, h]
  exact C14.replace_renames_leading_only _ _ _

/-- **hard-link references stay consistent**: a link that named an entry still names it -/
theorem rebase_links_consistent (old new : Str) (e t : Entry) (hl : e.typ = .link) (h : e.linkname = t.name) :
    (rebaseEntry old new e).linkname = (rebaseEntry old new t).name := by
  simp [rebaseEntry, hl, h]

/-- **an input that ends in an error yields an output that ends in that error**, never a clean end -/
theorem rebase_error_surfaces (old new : Str) (es : List Entry) (c : Nat) :
    (rebaseM old new (es, .err c)).2 = .err c := rfl

theorem rebase_eof (old new : Str) (es : List Entry) : (rebaseM old new (es, .eof)).2 = .eof := rfl

theorem applyMod_out (st st' : RState) (m : Modifier) (o : Option Entry) (p : Str) (h : applyMod st m o p = .ok st') :
    (∃ h', st'.out = h' :: st.out) ∨ st'.out = st.out := by
  revert h
  fun_cases applyMod st m o p
  case case1 => nofun
  case case2 => exact fun h => Except.ok.inj h ▸ Or.inr rfl
  case case3 => exact fun h => Except.ok.inj h ▸ Or.inl ⟨_, rfl⟩

theorem applyMod_mods (st st' : RState) (m : Modifier) (o : Option Entry) (p : Str) (h : applyMod st m o p = .ok st') :
    st'.mods = st.mods := by
  revert h
  fun_cases applyMod st m o p
  case case1 => nofun
  all_goals exact fun h => Except.ok.inj h ▸ rfl

/-- entries that no modifier names pass through untouched, in order: the output, with the
    modifier-produced entries removed, is the input with the targeted entries removed -/
theorem replace_untargeted_identical : ∀ (es : List Entry) (st st' : RState),
    replaceLoop es st = .ok st' → (∀ e ∈ es, st.mods.find? (fun m => m.name = e.name) = none) →
    st'.out = es.reverse ++ st.out ∧ st'.mods = st.mods ∧ st'.calls = st.calls := by
  intro es st st'
  fun_induction replaceLoop es st
  case case1 => exact fun h _ => Except.ok.inj h ▸ ⟨rfl, rfl, rfl⟩
  case case2 ih =>
    intro h hn
    have := ih h fun x hx => hn x (List.mem_cons_of_mem _ hx)
    exact ⟨by rw [this.1]; simp, this.2.1, this.2.2⟩
  -- the other two have found a modifier for the head
  all_goals exact fun _ hn => nomatch (hn _ List.mem_cons_self).symm.trans ‹_ = some _›

/-- **an error from a modifier surfaces as the end of the output** -/
theorem replace_modifier_error (mods : List Modifier) (order : List Modifier → List Modifier) (s : Stream) (c : Nat)
    (h : replaceLoop s.1 { mods := mods } = .error c) : (replaceM mods order s).1.2 = .err c := by
  simp [replaceM, h]

/-- **an error of the input surfaces as the end of the output** -/
theorem replace_input_error (mods : List Modifier) (order : List Modifier → List Modifier) (es : List Entry) (c : Nat) :
    ∃ c', (replaceM mods order (es, .err c)).1.2 = .err c' := by
  unfold replaceM
  split
  · exact ⟨_, rfl⟩
  · exact ⟨c, rfl⟩

/-- a clean end of the output means: the input ended cleanly and no modifier failed -/
theorem replace_eof_iff (mods : List Modifier) (order : List Modifier → List Modifier) (s : Stream)
    (h : (replaceM mods order s).1.2 = .eof) : s.2 = .eof := by
  revert h
  fun_cases replaceM mods order s
  -- the only way out with `.eof`
  case case4 he _ _ => exact fun _ => he
  all_goals nofun

/-- each modifier is used at most once by the loop: once used it leaves the map -/
theorem replaceLoop_mods_shrink : ∀ (es : List Entry) (st st' : RState), replaceLoop es st = .ok st' →
    ∀ m ∈ st'.mods, m ∈ st.mods := by
  intro es st st'
  fun_induction replaceLoop es st
  case case1 => exact fun h m hm => Except.ok.inj h ▸ hm
  case case2 ih => exact ih
  case case3 => nofun
  case case4 hap ih =>
    intro h m hm
    have := ih h m hm
    rw [applyMod_mods _ _ _ _ _ hap] at this
    exact (List.mem_filter.mp this).1

/-- obligation on the regenerated structure: both rewriters close their pipe (with the error, where
    there is one) on every exit path -/
theorem rewriters_close_with_error : Facts.rebaseClosesAlways = true ∧ Facts.replaceClosesAlways = true := by decide

/-- non-vacuity: a replace that drops one entry, rewrites another, adds a third -/
example :
    let a : Entry := { typ := .reg, name := b!"a" }
    let b : Entry := { typ := .reg, name := b!"b" }
    let k : Entry := { typ := .reg, name := b!"k" }
    let mods : List Modifier := [⟨b!"a", fun _ => .drop⟩, ⟨b!"n", fun _ => .keep { typ := .reg, name := [] } [1]⟩]
    ((replaceM mods id ([a, k, b], .eof)).1.1.map (·.name)) = [b!"k", b!"b", b!"n"] ∧
    (replaceM mods id ([a, k, b], .eof)).2 = [(b!"a", true), (b!"n", false)] := by decide

end GA.C15
