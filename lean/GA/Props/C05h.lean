import GA.Props.C05e
import GA.Props.C05f
import GA.Props.C05g
/-
  C05 / C20, the statement for a whole archive at once: **after a successful `Untar`, every entry that has the
  last word on its path is fully present** — for every archive without symbolic-link entries, every option set
  of the default whiteout format (outside a user namespace), every prior symlink-free world, and *every* entry of
  the archive of type regular file, directory, character or block device or fifo that is not excluded and does
  not name the destination itself: if no later entry names the same path or a path above it and — unless the
  entry is a directory — no later entry names a path beneath it or links to it, then the path holds an object of
  the entry's type with the entry's content (device numbers), all twelve mode bits, the clamped modification
  time and the translated or overriding owner.  One statement, quantified over the position of the entry in the
  archive; it packages `untar_reg_last_wins`, `untar_dir_last_wins` and `untar_node_last_wins`.
-/
namespace GA.C05
open GA

def pathOf (dest : Str) (e : Entry) : Path := pathComps (join (clean dest) (clean e.name))

/-- `e` has the last word on its path: nothing after it names the path or a path above it, and — unless `e` is
    a directory — nothing after it names a path beneath it or is a hard link to it -/
def Final (dest : Str) (e : Entry) (post : List Entry) : Prop :=
  ¬ Cov (touched (clean dest) post) (pathOf dest e) ∧
  (e.typ ≠ .dir → ¬ Anc (touched (clean dest) post) (pathOf dest e))

def Holds (o : Opts) (e : Entry) (fs : FS) (P : Path) : Prop :=
  ∃ e' i n, remapE o e = some e' ∧ fs.lookup P = some i ∧ fs.inode i = some n ∧
    n.perm = e.mode &&& 0o7777 ∧ n.mtime = some (boundTime e.mtime) ∧
    (o.noLchown = false → (n.uid, n.gid) = o.chownOpts.getD (e'.uid, e'.gid)) ∧
    (match e.typ with
     | .reg => n.kind = .reg ∧ n.data = e.body
     | .dir => n.kind = .dir
     | .chr => n.kind = .chr ∧ n.rdev = (e.devmajor, e.devminor)
     | .blk => n.kind = .blk ∧ n.rdev = (e.devmajor, e.devminor)
     | .fifo => n.kind = .fifo
     | _ => True)

theorem untar_success_all_present (dest : Str) (o : Opts) (es : List Entry) (w : World)
    (habs : isAbs dest = true) (hov : o.overlay = false) (huns : o.inUserNS = false)
    (hsym : ∀ x ∈ es, x.typ ≠ .sym)
    (hw : LW (pathComps (clean dest)) w)
    (hok : ((untarP dest o es).run w).1 = .ok) :
    ∀ (pre post : List Entry) (e : Entry), es = pre ++ e :: post →
      (e.typ = .reg ∨ e.typ = .dir ∨ e.typ = .chr ∨ e.typ = .blk ∨ e.typ = .fifo) →
      o.excludes.any (fun x => hasPrefix (clean e.name) x) = false →
      pathOf dest e ≠ pathComps (clean dest) →
      Final dest e post →
      Holds o e ((untarP dest o es).run w).2.fs (pathOf dest e) := by
  intro pre post e hes htyp hnx hne hfin
  subst hes
  rcases htyp with h | h | hnode
  · obtain ⟨e', i, n, hrem, hl, hi, hk, hdat, hpm, hmt, hown⟩ :=
      untar_reg_last_wins dest o pre post e w habs hov hsym hw h hnx hne hfin.1 (hfin.2 (by rw [h]; decide)) hok
    exact ⟨e', i, n, hrem, hl, hi, hpm, hmt, hown, by rw [h]; exact ⟨hk, hdat⟩⟩
  · obtain ⟨e', i, n, hrem, hl, hi, hk, hpm, hmt, hown⟩ :=
      untar_dir_last_wins dest o pre post e w habs hov hsym hw h hnx hne hfin.1 hok
    exact ⟨e', i, n, hrem, hl, hi, hpm, hmt, hown, by rw [h]; exact hk⟩
  · have hnd : e.typ ≠ .dir := by rcases hnode with h | h | h <;> rw [h] <;> decide
    obtain ⟨e', i, n, hrem, hl, hi, hk, hrd, hpm, hmt, hown⟩ :=
      untar_node_last_wins dest o pre post e w habs hov hsym hw hnode huns hnx hne hfin.1 (hfin.2 hnd) hok
    refine ⟨e', i, n, hrem, hl, hi, hpm, hmt, hown, ?_⟩
    rcases hnode with h | h | h <;> rw [h] at hk hrd ⊢
    · exact ⟨hk, hrd (by decide)⟩
    · exact ⟨hk, hrd (by decide)⟩
    · exact hk

/-- … and every hard-link entry whose own path and whose source nothing later names (or names a path above) shares
    its source's object -/
theorem untar_success_links_shared (dest : Str) (o : Opts) (es : List Entry) (w : World)
    (habs : isAbs dest = true) (hov : o.overlay = false)
    (hsym : ∀ x ∈ es, x.typ ≠ .sym)
    (hw : LW (pathComps (clean dest)) w)
    (hok : ((untarP dest o es).run w).1 = .ok) :
    ∀ (pre post : List Entry) (e : Entry), es = pre ++ e :: post → e.typ = .link →
      o.excludes.any (fun x => hasPrefix (clean e.name) x) = false →
      pathOf dest e ≠ pathComps (clean dest) →
      ¬ Cov (touched (clean dest) post) (pathOf dest e) →
      ¬ Cov (touched (clean dest) post) (pathComps (join (clean dest) e.linkname)) →
      ∃ i, ((untarP dest o es).run w).2.fs.lookup (pathOf dest e) = some i ∧
        ((untarP dest o es).run w).2.fs.lookup (pathComps (join (clean dest) e.linkname)) = some i := by
  intro pre post e hes hl hnx hne hc hcs
  subst hes
  exact untar_link_shares dest o pre post e w habs hov hsym hw hl hnx hne hc hcs hok

/-- non-vacuity: in the archive `d/`, `d/x` of C05e both entries have the last word on their paths -/
example : Final b!"/w/dest" exDirEntry [exChild] ∧ Final b!"/w/dest" exChild [] := by
  exact ⟨⟨by decide, fun h => absurd rfl h⟩, by decide, fun _ => by decide⟩

end GA.C05
