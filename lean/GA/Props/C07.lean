import GA.M.Pack
import GA.Props.C01
/-
  C07 — chrooted tar never reads anything outside the root.
  Stated as noninterference: the archive produced through `chrootarchive.Tar` is a function of the
  part of the filesystem under the root only — for every source path, include list, pattern list,
  rebase map and arrangement of symlinks.  Two worlds that agree under the root (same names, same
  inodes, same link counts) yield the same result, whatever lies outside.
-/
namespace GA.C07
open GA

theorem insideEq_modInode {r : Path} {fs1 fs2 : FS} (h : InsideEq r fs1 fs2) (q : Path) (i : Ino)
    (f : Inode → Inode) (hq : under r q = true) (h1 : fs1.lookup q = some i) :
    InsideEq r (fs1.modInode i f) (fs2.modInode i f) := by
  have hi := h.inode q i hq h1
  refine ⟨?_, ?_, ?_⟩
  · unfold insideNames
    rw [names_modInode, names_modInode]
    exact h.names
  · intro p j hp hl
    rw [lookup_modInode] at hl
    rw [inode_modInode, inode_modInode, hi, h.inode p j hp hl]
  · intro p j hp hl
    rw [lookup_modInode] at hl
    unfold FS.nlink
    rw [names_modInode, names_modInode]
    exact h.nlink p j hp hl

/-- **noninterference of chrooted tar** -/
theorem chrootTar_noninterference (src root : Str) (o : PackOpts) (w1 w2 : World) (rp : Path)
    (h1 : resolve w1 root true = .ok rp) (h2 : resolve w2 root true = .ok rp)
    (heq : InsideEq rp w1.fs w2.fs) (hum : w1.umask = w2.umask) :
    ((chrootTarP src root o).run w1).1 = ((chrootTarP src root o).run w2).1 := by
  fun_cases chrootTarP src root o
  case case1 => rfl
  case case2 =>
    rw [C01.jailedP_run root _ none w1 rp h1, C01.jailedP_run root _ none w2 rp h2,
      ← heq.lookup_eq rp (under_refl rp), ← heq.isDir_eq rp (under_refl rp)]
    cases hlk : w1.fs.lookup rp with
    | none => rfl
    | some i =>
      simp only
      split
      · have hw : WorldEq rp { w1 with root := rp, fs := w1.fs.modInode i (fun n => { n with mtime := none }) }
            { w2 with root := rp, fs := w2.fs.modInode i (fun n => { n with mtime := none }) } :=
          ⟨insideEq_modInode heq rp i _ (under_refl rp) hlk, rfl, hum, under_refl rp⟩
        rw [Prog.run_bind, Prog.run_bind, tarP, (rprog_inside_determined (tarR _ o) _ _ hw).1]
        rfl
      · rfl

/-- the plain producer is a read-only program: it never modifies the filesystem -/
theorem tar_reads_only (src : Str) (o : PackOpts) (w : World) : ((tarP src o).run w).2 = w := by
  have hw : WorldEq [] w w :=
    ⟨⟨rfl, fun _ _ _ _ => rfl, fun _ _ _ _ => rfl⟩, rfl, rfl, by simp [under]⟩
  exact (rprog_inside_determined (tarR src o) w w hw).2.1

/-- non-vacuity: adding any object outside the root yields a world that agrees with the old one inside -/
theorem insideEq_add_outside (r : Path) (fs : FS) (q : Path) (j : Ino) (n : Inode)
    (hq : under r q = false) (hj : ∀ p, fs.lookup p ≠ some j) :
    InsideEq r fs { names := fs.names ++ [(q, j)], inode := fun k => if k = j then some n else fs.inode k, next := fs.next } := by
  refine ⟨?_, ?_, ?_⟩
  · unfold insideNames; simp [List.filter_append, hq]
  · intro p i _ hl
    have : i ≠ j := by intro e; subst e; exact hj p hl
    simp [this]
  · intro p i _ hl
    have : i ≠ j := by intro e; subst e; exact hj p hl
    unfold FS.nlink
    simp [List.filter_append, Ne.symm this]

/-- the packer that runs inside the jail (`Tarballer.Do` and what it reaches) is reached only through
    `goInChroot` and starts no goroutine of its own: every read it makes is made on the jailed thread -/
theorem packer_inside_jail_single_threaded :
    Facts.extractorUses = (3, 0) ∧ Facts.switchRootInSetup = true ∧
    Facts.jailBodyRootsFound = true ∧ Facts.jailBodyGoStmts = [] := by decide

end GA.C07
