import GA.Props.C03b
import GA.Props.C05h
import GA.Props.C09
/-
  C03 for whole archives: **whatever tree of directories, regular files, devices and fifos the packer's header
  construction describes, parents before children, the extractor recreates** — each file's content, each device's
  major and minor numbers, and for everything the twelve mode bits, owner, group and (whole-second) modification
  time (directories included: creating the children changes a directory's time on the way, the deferred pass puts
  it back) — for any number of entries, into any symlink-free destination, whatever the destination held at those
  paths before.  The composition of the pack-side header construction (`buildHeader` = `FileInfoHeader` +
  canonical names) with C05's whole-archive statement `untar_success_all_present` (outside a user namespace);
  `files_roundtrip` is the case of regular files alone, in any order.

  The order hypothesis is what the walk of `Tarballer.Do` gives (a directory is visited before its content, each
  path once); that the walk emits exactly these headers is checked by the `pack` and `roundtrip-tar` streams, not
  proved.  Hard links are C05g on the extraction side.
-/
namespace GA.C03
open GA

/-- an object as the packer sees it: its name in the archive, `lstat`, the capability lookup, its bytes -/
structure FileDesc where
  name : Str
  st : StatInfo
  cap : Res
  data : List UInt8

/-- the entry the packer writes for it -/
def FileDesc.entry (f : FileDesc) : Entry := { (buildHeader f.name f.st [] f.cap) with body := f.data }

/-- where the extractor puts it -/
def FileDesc.path (dest : Str) (f : FileDesc) : Path := pathComps (join (clean dest) (clean f.entry.name))

theorem remapE_default (e : Entry) : remapE {} e = some e := by
  unfold remapE toHostPair rootPair toHostRaw
  simp

def PlainKind (k : Kind) : Prop := k = .reg ∨ k = .dir ∨ k = .chr ∨ k = .blk ∨ k = .fifo

theorem entry_typ_of_kind (f : FileDesc) : f.entry.typ = typOfKind f.st.kind := by
  simp [FileDesc.entry, buildHeader]

theorem touched_entries (dest : Str) (fs : List FileDesc) :
    touched (clean dest) (fs.map FileDesc.entry) = fs.map (FileDesc.path dest) := by
  induction fs with
  | nil => rfl
  | cons f fs ih =>
    have hkf : f.entry.typ ≠ .link := entry_typ_of_kind f ▸ C09.typOfKind_ne_link _
    rw [List.map_cons, touched_cons, ih]
    simp [touched, hkf, FileDesc.path]

/-- the archive of `fs` cut at one file, with what an order on the files says of that file and the later ones -/
theorem entries_split {fs : List FileDesc} {f : FileDesc} (hf : f ∈ fs) {R : FileDesc → FileDesc → Prop}
    (hord : fs.Pairwise R) : ∃ pre post, fs = pre ++ f :: post ∧
      fs.map FileDesc.entry = pre.map FileDesc.entry ++ f.entry :: post.map FileDesc.entry ∧ ∀ g ∈ post, R f g := by
  obtain ⟨pre, post, rfl⟩ := List.append_of_mem hf
  exact ⟨pre, post, rfl, by simp, (List.pairwise_cons.mp (List.pairwise_append.mp hord).2.1).1⟩

/-- **any tree of directories, regular files, devices and fifos survives tar → untar** -/
theorem tree_roundtrip_nodes (dest : Str) (fs : List FileDesc) (w : World)
    (habs : isAbs dest = true) (hw : LW (pathComps (clean dest)) w)
    (hnode : ∀ f ∈ fs, PlainKind f.st.kind ∧ f.st.perm < 4096 ∧
      (f.st.kind = .reg → f.st.size = f.data.length) ∧ ∃ t, f.st.mtime = some t ∧ 0 ≤ t ∧ t ≤ 9223372036)
    (hself : ∀ f ∈ fs, f.path dest ≠ pathComps (clean dest))
    -- each path once, a directory before what lies beneath it, nothing beneath anything that is not a directory
    (hord : fs.Pairwise (fun a b => ¬ b.path dest <+: a.path dest ∧ (a.st.kind ≠ .dir → ¬ a.path dest <+: b.path dest)))
    (hok : ((untarP dest {} (fs.map FileDesc.entry)).run w).1 = .ok) :
    ∀ f ∈ fs, ∃ i n, ((untarP dest {} (fs.map FileDesc.entry)).run w).2.fs.lookup (f.path dest) = some i ∧
      ((untarP dest {} (fs.map FileDesc.entry)).run w).2.fs.inode i = some n ∧
      n.kind = f.st.kind ∧ (f.st.kind = .reg → n.data = f.data) ∧
      ((f.st.kind = .chr ∨ f.st.kind = .blk) → n.rdev = f.st.rdev) ∧
      n.perm = f.st.perm ∧ n.uid = f.st.uid ∧ n.gid = f.st.gid ∧ n.mtime = f.st.mtime := by
  intro f hf
  obtain ⟨pre, post, _, hes, hpair⟩ := entries_split hf hord
  have hkinds : ∀ x ∈ fs, PlainKind x.st.kind := fun x hx => (hnode x hx).1
  have htyp : ∀ x ∈ fs, x.entry.typ = .reg ∨ x.entry.typ = .dir ∨ x.entry.typ = .chr ∨ x.entry.typ = .blk ∨ x.entry.typ = .fifo := by
    intro x hx
    rw [entry_typ_of_kind]
    rcases hkinds x hx with h | h | h | h | h <;> rw [h] <;> simp [typOfKind]
  have hsym : ∀ x ∈ fs.map FileDesc.entry, x.typ ≠ .sym := by
    intro x hx
    obtain ⟨g, hg, rfl⟩ := List.mem_map.mp hx
    rcases htyp g hg with h | h | h | h | h <;> rw [h] <;> decide
  have hfinal : C05.Final dest f.entry (post.map FileDesc.entry) := by
    unfold C05.Final C05.pathOf
    rw [touched_entries dest post]
    refine ⟨?_, fun hnd => ?_⟩
    · rintro ⟨t, ht, hpre⟩
      obtain ⟨g, hg, rfl⟩ := List.mem_map.mp ht
      exact (hpair g hg).1 hpre
    · rintro ⟨t, ht, hpre⟩
      obtain ⟨g, hg, rfl⟩ := List.mem_map.mp ht
      refine (hpair g hg).2 (fun hd => hnd ?_) hpre
      rw [entry_typ_of_kind, hd]; rfl
  obtain ⟨e', i, n, hrem, hl, hi, hpm, hmt, hown, hkind⟩ :=
    C05.untar_success_all_present dest {} (fs.map FileDesc.entry) w habs rfl rfl hsym hw hok _ _ f.entry hes
      (htyp f hf) (by simp) (hself f hf) hfinal
  rw [remapE_default] at hrem
  cases hrem
  obtain ⟨hk, hperm, _, t, hmtime, ht0, ht1⟩ := hnode f hf
  have hfields := header_fields f.name f.st f.cap t hperm hmtime ht0 ht1 n hpm hmt (hown rfl)
  rw [← hmtime] at hfields
  have hnone : ∀ {k : Kind} {P : Prop}, k ≠ .chr → k ≠ .blk → (k = .chr ∨ k = .blk) → P :=
    fun h1 h2 h => (h.elim h1 h2).elim
  rw [entry_typ_of_kind] at hkind
  refine ⟨i, n, hl, hi, ?_⟩
  rcases hk with h | h | h | h | h <;> rw [h] at hkind ⊢
  · exact ⟨hkind.1, fun _ => hkind.2, hnone (by decide) (by decide), hfields⟩
  · exact ⟨hkind, (fun h' => by cases h'), hnone (by decide) (by decide), hfields⟩
  · exact ⟨hkind.1, (fun h' => by cases h'), (fun _ => by rw [hkind.2]; simp [FileDesc.entry, buildHeader, h]), hfields⟩
  · exact ⟨hkind.1, (fun h' => by cases h'), (fun _ => by rw [hkind.2]; simp [FileDesc.entry, buildHeader, h]), hfields⟩
  · exact ⟨hkind, (fun h' => by cases h'), hnone (by decide) (by decide), hfields⟩

/-- **any set of regular files survives tar → untar** -/
theorem files_roundtrip (dest : Str) (fs : List FileDesc) (w : World)
    (habs : isAbs dest = true) (hw : LW (pathComps (clean dest)) w)
    (hreg : ∀ f ∈ fs, f.st.kind = .reg ∧ f.st.perm < 4096 ∧ f.st.size = f.data.length ∧
      ∃ t, f.st.mtime = some t ∧ 0 ≤ t ∧ t ≤ 9223372036)
    (hself : ∀ f ∈ fs, f.path dest ≠ pathComps (clean dest))
    (hinc : fs.Pairwise (fun a b => ¬ a.path dest <+: b.path dest ∧ ¬ b.path dest <+: a.path dest))
    (hok : ((untarP dest {} (fs.map FileDesc.entry)).run w).1 = .ok) :
    ∀ f ∈ fs, ∃ i n, ((untarP dest {} (fs.map FileDesc.entry)).run w).2.fs.lookup (f.path dest) = some i ∧
      ((untarP dest {} (fs.map FileDesc.entry)).run w).2.fs.inode i = some n ∧
      n.kind = .reg ∧ n.data = f.data ∧ n.perm = f.st.perm ∧ n.uid = f.st.uid ∧ n.gid = f.st.gid ∧
      n.mtime = f.st.mtime := by
  intro f hf
  obtain ⟨i, n, hl, hi, hk, hd, _, hrest⟩ := tree_roundtrip_nodes dest fs w habs hw
    (fun g hg => ⟨Or.inl (hreg g hg).1, (hreg g hg).2.1, fun _ => (hreg g hg).2.2.1, (hreg g hg).2.2.2⟩) hself
    (hinc.imp (fun h => ⟨h.2, fun _ => h.1⟩)) hok f hf
  exact ⟨i, n, hl, hi, hk.trans (hreg f hf).1, hd (hreg f hf).1, hrest⟩

/-! ### non-vacuity: two files, one of them set-uid, into a destination that already holds a file -/

def exSt (perm uid gid sz : Nat) : StatInfo :=
  { kind := .reg, perm := perm, uid := uid, gid := gid, ino := 0, nlink := 1, size := sz, rdev := (0, 0), mtime := some 1000 }

def exFiles : List FileDesc :=
  [{ name := b!"b", st := exSt 0o644 5 6 2, cap := .err .ENODATA, data := b!"hi" },
   { name := b!"bin/su", st := exSt 0o4755 0 0 3, cap := .err .ENODATA, data := b!"elf" }]

theorem exFiles_ok : ((untarP b!"/w/dest" {} (exFiles.map FileDesc.entry)).run { fs := C05.exFS2 }).1 = .ok := by decide +kernel

example : ∃ i n, ((untarP b!"/w/dest" {} (exFiles.map FileDesc.entry)).run { fs := C05.exFS2 }).2.fs.lookup
      [b!"w", b!"dest", b!"bin", b!"su"] = some i ∧
    ((untarP b!"/w/dest" {} (exFiles.map FileDesc.entry)).run { fs := C05.exFS2 }).2.fs.inode i = some n ∧
    n.data = b!"elf" ∧ n.perm = 0o4755 ∧ n.mtime = some 1000 := by
  have hp : (exFiles[1]).path b!"/w/dest" = [b!"w", b!"dest", b!"bin", b!"su"] := by decide
  obtain ⟨i, n, hl, hi, _, hd, hpm, _, _, hmt⟩ := files_roundtrip b!"/w/dest" exFiles { fs := C05.exFS2 } (by decide) C05.exFS2_LW
    (by intro f hf; simp [exFiles] at hf; rcases hf with rfl | rfl <;> exact ⟨rfl, by decide, rfl, 1000, rfl, by decide, by decide⟩)
    (by intro f hf; simp [exFiles] at hf; rcases hf with rfl | rfl <;> decide)
    (by simp only [exFiles, List.pairwise_cons]; refine ⟨fun b hb => ?_, ?_⟩
        · simp at hb; subst hb; decide
        · simp)
    exFiles_ok (exFiles[1]) (List.getElem_mem _)
  rw [hp] at hl
  exact ⟨i, n, hl, hi, hd, hpm, hmt⟩

end GA.C03
