import GA.Proofs.UnpackLast
import GA.Props.C05c
/-
  C05, the named half for regular files: **the last entry wins**.  For every archive `pre ++ e :: post` without
  symbolic-link entries, every option set of the default whiteout format and every prior symlink-free world:
  if the plain `Untar` reports success, `e` is a regular-file entry that is not excluded and does not name
  the destination itself, and no later entry names the same path, a path above it, a path beneath it or a
  hard link to it, then afterwards the path names a regular file with exactly `e`'s content, all twelve mode
  bits, the clamped modification time and — unless `NoLchown` — the translated (or overriding) owner.

  Whatever `pre` did there (a directory with content, a device, a file with other names) is replaced, and the
  deferred directory-time pass at the end leaves the file alone even when `pre` holds a *directory* entry for the
  very same path — the case of finding D25 (before its fix the pass put the directory entry's time on the file).

  The proof is `unpackLoop_entry_kept` (GA/Proofs/UnpackLast.lean) — the cut of the successful run at `e`, the frame
  of the remaining entries, the deferred pass, which changes directories only — with the per-entry postcondition
  `iter_reg_post`.
-/
namespace GA.C05
open GA

theorem untar_reg_last_wins (dest : Str) (o : Opts) (pre post : List Entry) (e : Entry) (w : World)
    (habs : isAbs dest = true) (hov : o.overlay = false)
    (hsym : ∀ x ∈ pre ++ e :: post, x.typ ≠ .sym)
    (hw : LW (pathComps (clean dest)) w)
    (hreg : e.typ = .reg)
    (hnx : o.excludes.any (fun x => hasPrefix (clean e.name) x) = false)
    (hne : pathComps (join (clean dest) (clean e.name)) ≠ pathComps (clean dest))
    (hcov : ¬ Cov (touched (clean dest) post) (pathComps (join (clean dest) (clean e.name))))
    (hanc : ¬ Anc (touched (clean dest) post) (pathComps (join (clean dest) (clean e.name))))
    (hok : ((untarP dest o (pre ++ e :: post)).run w).1 = .ok) :
    ∃ e' i n, remapE o e = some e' ∧
      ((untarP dest o (pre ++ e :: post)).run w).2.fs.lookup (pathComps (join (clean dest) (clean e.name))) = some i ∧
      ((untarP dest o (pre ++ e :: post)).run w).2.fs.inode i = some n ∧
      n.kind = .reg ∧ n.data = e.body ∧ n.perm = e.mode &&& 0o7777 ∧ n.mtime = some (boundTime e.mtime) ∧
      (o.noLchown = false → (n.uid, n.gid) = o.chownOpts.getD (e'.uid, e'.gid)) := by
  have hd : CleanAbs (clean dest) := clean_cleanAbs dest habs
  obtain ⟨i, n, hl, hi, e', hrem, hfin⟩ := unpackLoop_entry_kept _ (clean dest) o hd rfl hov pre post e [] w hsym hw
    (fun _ h => by cases h) hcov hanc hok (fun n => ∃ e', remapE o e = some e' ∧ RegFinal e' o n)
    (fun d1 w1 d2 w2 hw1 hit => by
      obtain ⟨_, _, e', i, n, hrem, hl, huniq, hi, hfin⟩ :=
        iter_reg_post _ (clean dest) o hd rfl hov e d1 w1 hw1 hreg hnx hne d2 w2 hit
      exact ⟨i, n, hl, huniq, hi, by rw [hfin.1]; decide, e', hrem, hfin⟩)
  obtain ⟨u, g, rfl⟩ := remapE_eq o e e' hrem
  exact ⟨_, i, n, hrem, hl, hi, hfin⟩

/-! ### non-vacuity, on the shape of finding D25: a directory entry, then a regular file of the same name -/

def exD25 : List Entry :=
  [{ name := b!"a/", typ := .dir, mode := 0o755, mtime := 1000 }]

def exD25file : Entry := { name := b!"a", typ := .reg, mode := 0o644, mtime := 2000, body := b!"hi", size := 2 }

/-- the extraction succeeds on the model … -/
theorem exD25_ok : ((untarP b!"/w/dest" {} (exD25 ++ exD25file :: [])).run { fs := exFS2 }).1 = .ok := by decide +kernel

/-- … so the theorem applies: `/w/dest/a` is the file of the last entry, with the file's time, not the directory's -/
example : ∃ i n, ((untarP b!"/w/dest" {} (exD25 ++ exD25file :: [])).run { fs := exFS2 }).2.fs.lookup [b!"w", b!"dest", b!"a"] = some i ∧
    ((untarP b!"/w/dest" {} (exD25 ++ exD25file :: [])).run { fs := exFS2 }).2.fs.inode i = some n ∧
    n.kind = .reg ∧ n.data = b!"hi" ∧ n.mtime = some 2000 := by
  have hP : pathComps (join (clean b!"/w/dest") (clean exD25file.name)) = [b!"w", b!"dest", b!"a"] := by decide
  obtain ⟨e', i, n, _, hl, hi, hk, hdt, _, hmt, _⟩ := untar_reg_last_wins b!"/w/dest" {} exD25 [] exD25file { fs := exFS2 }
    (by decide) rfl (by intro x hx; simp [exD25, exD25file] at hx; rcases hx with rfl | rfl <;> simp)
    exFS2_LW rfl (by decide) (by rw [hP]; decide)
    (by decide) (by decide) exD25_ok
  rw [hP] at hl
  exact ⟨i, n, hl, hi, hk, hdt, by rw [hmt]; decide⟩

end GA.C05
