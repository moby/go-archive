import GA.Proofs.NoBlockUnpack
/-
  C19, for the plain extractor on the kernel model: **`Untar` never reaches a blocking open** — for every
  archive without symbolic-link entries, every option set of the default whiteout format and every prior
  world without symbolic links, whatever the tree holds (fifos in the way included).  The three calls that can
  fail to return are `os.RemoveAll` (it opens the parent when the unlink fails with ENOTDIR — D16), the
  open-for-write of a regular-file entry (an existing fifo) and a read of a fifo.  `Unpack` removes only what
  `lstat` has just resolved, opens for writing only where the path is absent or unresolvable, and reads no
  file.
-/
namespace GA.C19
open GA

theorem unpackLoop_noblock (dp : Path) (dest : Str) (o : Opts) (hd : CleanAbs dest) (hdp : pathComps dest = dp)
    (hov : o.overlay = false) : ∀ (es dirs : List Entry) (w : World), LW dp w → DirsOK dp dest dirs →
    (∀ e ∈ es, e.typ ≠ .sym) → (unpackLoop dest o es dirs).blocks w = false
  | [], dirs, w, _, _, _ => by
    simp only [unpackLoop]
    exact NB.blocks _ _ (nb_dirTimes dest _)
  | e :: es, dirs, w, hw, hdirs, hsym => by
    have hes : e.typ ≠ .sym := hsym e (by simp)
    rw [unpackLoop_cons, blocks_bind, iter_noblock dp dest o hd hdp hov e dirs w hw hes, Bool.false_or]
    have hl := LexSem.run dp _ _ w (lex_iter dp dest o hd hdp hov e dirs hes hdirs) hw
    cases hr : (unpackIterP dest o e dirs).run w with
    | mk r w' =>
      rw [hr] at hl
      cases r with
      | error out => rfl
      | ok d =>
        simp only [iterK]
        exact unpackLoop_noblock dp dest o hd hdp hov es d w' hl.2.1 (hl.2.2 d rfl) (fun x hx => hsym x (by simp [hx]))

/-- **the plain `Untar` never blocks** in a world without symbolic links -/
theorem untar_never_blocks (dest : Str) (o : Opts) (es : List Entry) (w : World)
    (habs : isAbs dest = true) (hov : o.overlay = false) (hsym : ∀ e ∈ es, e.typ ≠ .sym)
    (hw : LW (pathComps (clean dest)) w) : (untarP dest o es).blocks w = false := by
  unfold untarP unpackP
  exact unpackLoop_noblock _ (clean dest) o (clean_cleanAbs dest habs) rfl hov es [] w hw (fun _ h => by cases h) hsym

end GA.C19
