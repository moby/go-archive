import GA.Proofs.PackAll
import GA.Props.C04
/-
  C11 — overlay whiteouts convert to the standard form and back losslessly.
-/
namespace GA.C11
open GA

/-- an entry is an overlay whiteout device when it is a 0/0 character device -/
def IsWhiteoutDev (e : Entry) : Prop := e.typ = .chr ∧ e.devmajor = 0 ∧ e.devminor = 0

theorem buildHeader_chr (name : Str) (s : StatInfo) (link : Str) (capR : Res)
    (h : (buildHeader name s link capR).typ = .chr) : s.kind = .chr := by
  simp only [buildHeader] at h; cases hk : s.kind <;> simp_all [typOfKind]

theorem linkStage_chr (st : PackState) (name : Str) (s : StatInfo) (hdr0 : Entry)
    (h0 : hdr0.typ = .chr → s.kind = .chr) : (linkStage st name s hdr0).1.typ = .chr → s.kind = .chr := by
  fun_cases linkStage st name s hdr0
  case case1 => nofun
  all_goals exact h0

theorem linkStage_out (st : PackState) (name : Str) (s : StatInfo) (hdr0 : Entry) :
    (linkStage st name s hdr0).2.out = st.out := by
  fun_cases linkStage st name s hdr0 <;> rfl

/-- the header the converter hands on is never a 0/0 character device -/
theorem converted_not_whiteout (s : StatInfo) (hdr2 : Entry) (h : hdr2.typ = .chr → s.kind = .chr) (nm : Str) :
    ¬ IsWhiteoutDev (if isOverlayWhiteout s hdr2 = true then
        { hdr2 with name := nm, mode := 0o600, typ := .reg, size := 0 } else hdr2) := by
  intro hw
  by_cases hiw : isOverlayWhiteout s hdr2 = true
  · simp only [hiw, if_true] at hw; exact absurd hw.1 (by simp)
  · simp only [hiw, Bool.false_eq_true, if_false] at hw
    apply hiw
    obtain ⟨h1, h2, h3⟩ := hw
    simp [isOverlayWhiteout, h h1, h2, h3]

/-- **no whiteout device reaches the stream**: with the overlay format every entry `addTarFile` emits
    is either not a character device or has a non-zero device number — for every file, every
    outcome of every system call -/
theorem convertWrite_no_leak (o : PackOpts) (st : PackState) (path name : Str) (s : StatInfo) (link : Str) (capR : Res)
    (hov : o.overlay = true) (hst : ∀ e ∈ st.out, ¬ IsWhiteoutDev e) :
    (afterStatP o st path name s link capR).All (fun st' => ∀ e ∈ st'.out, ¬ IsWhiteoutDev e) := by
  fun_cases afterStatP o st path name s link capR
  case case1 => exact hst
  case case3 hno => exact absurd hov hno
  case case2 hdr0 ls u g _ hdr2 _ =>
    have hst' : ∀ e ∈ ls.2.out, ¬ IsWhiteoutDev e := linkStage_out st name s hdr0 ▸ hst
    have pushOK (hdr : Entry) (hc : ¬ IsWhiteoutDev hdr) :
        (emitP ls.2 path hdr).All (fun st' => ∀ e ∈ st'.out, ¬ IsWhiteoutDev e) := by
      refine RProg.All.mono ?_ _ (emitP_all ls.2 path hdr)
      rintro st' ⟨body, rfl⟩ x hx
      rcases List.mem_cons.mp hx with rfl | hx
      · exact hc
      · exact hst' x hx
    have hconv := converted_not_whiteout s hdr2 (linkStage_chr st name s _ (buildHeader_chr name s link capR))
    fun_cases overlayP o st ls.2 path s hdr2
    case case1 => exact pushOK _ (hconv _)
    case case2 hdr3 _ =>
      -- a directory; `lgetxattr` answers a value (the opaque mark, or another), "no such attribute", or fails
      have hc : ¬ IsWhiteoutDev hdr3 := hconv _
      intro oq
      simp only
      split
      · split
        · intro x hx
          simp at hx
          rcases hx with rfl | rfl | hx
          · intro hw; exact absurd hw.1 (by simp)
          · intro hw; exact hc ⟨hw.1, hw.2.1, hw.2.2⟩
          · exact hst' x hx
        · exact pushOK _ hc
      · exact pushOK _ hc
      · exact hst

/-- **ordinary device nodes are left alone**: the converter changes nothing unless the file is a
    character device with number 0/0 -/
theorem ordinary_devices_untouched (s : StatInfo) (hdr : Entry)
    (h : ¬ (s.kind = .chr ∧ hdr.devmajor = 0 ∧ hdr.devminor = 0)) : isOverlayWhiteout s hdr = false := by
  unfold isOverlayWhiteout
  cases hk : (s.kind == Kind.chr) <;> cases h1 : (hdr.devmajor == 0) <;> cases h2 : (hdr.devminor == 0) <;> simp_all

/-- **the default format leaves the standard whiteout files alone on extraction**: without the
    overlay option no conversion step runs -/
theorem aufs_side_no_conversion (dest : Str) (o : Opts) (e : Entry) (es dirs : List Entry) (h : o.overlay = false) :
    ∀ p e', (if o.overlay then convertReadP p e' else (pure (some true) : Prog (Option Bool))) = pure (some true) := by
  intro p e'; simp [h]

/-- **extraction recreates the whiteout under the original name**: for the archived name
    `dir/.wh.x` (as `ConvertWrite` builds it from `dir/x`) `ConvertRead` makes the 0/0 character device at
    `dir/x` and gives it the entry's owner -/
theorem convertRead_recreates (cs : List Str) (c : Str) (h : ∀ x ∈ cs, Norm x) (hc : Norm c) (e : Entry)
    (hne : whPrefix ++ c ≠ whOpaqueDir) :
    convertReadP (47 :: joinSlash (cs ++ [whPrefix ++ c])) e =
      .call (.mknod (47 :: joinSlash (cs ++ [c])) .chr 0 (0, 0)) (fun r =>
        if isErr r then .ret none
        else .call (.chown (47 :: joinSlash (cs ++ [c])) e.uid e.gid true) (fun r2 => if isErr r2 then .ret none else .ret (some false))) := by
  obtain ⟨hd, hb⟩ := dir_base_snoc cs (whPrefix ++ c) h (C04.norm_wh c hc)
  unfold convertReadP
  simp only [hd, hb, hne, if_false]
  have hp : hasPrefix (whPrefix ++ c) whPrefix = true := by simp [hasPrefix]
  simp only [hp, if_true]
  have : (whPrefix ++ c).drop whPrefix.length = c := by simp
  rw [this, join_snoc cs c h hc]

/-- the opaque marker sets the attribute on its directory and writes no file -/
theorem convertRead_opaque (cs : List Str) (h : ∀ x ∈ cs, Norm x) (e : Entry) :
    convertReadP (47 :: joinSlash (cs ++ [whOpaqueDir])) e =
      .call (.setxattr (47 :: joinSlash cs) opaqueKey [121] true) (fun r => if isErr r then .ret none else .ret (some false)) := by
  have hn : Norm whOpaqueDir := by
    refine ⟨by decide, by decide, by decide, by decide⟩
  obtain ⟨hd, hb⟩ := dir_base_snoc cs whOpaqueDir h hn
  unfold convertReadP
  simp only [hd, hb, if_true]

end GA.C11
