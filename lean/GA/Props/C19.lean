import GA.Props.C01
import GA.Proofs.NoBlock
/-
  C19 — arbitrary input never crashes or hangs the readers.
  Decided here: (1) every reader-side model function is total — Lean accepted `unpackLoop`,
  `layerLoop`, `opaqueWalkP`, `walkP`, `mur`, `parseDirent`, `rebaseM`, `replaceM`, `detect`, `chase`
  by structural recursion, with no `partial` and no fuel that can run out on finite input — and has
  no partial operation (slicing behind a prefix test is `List.drop`); (2) the one place where the
  library can block forever — `os.RemoveAll` opening the parent of its argument when that parent is
  a fifo — is never reached by the whiteout step (D16, D16b) and the destination itself is never
  traded for a fifo (D17); (3) whatever a failing extraction created lies inside the jail, for every
  prefix of the run and every set of refused calls.
  Partial: archive/tar, the codecs and helper processes on crafted bytes are outside the model and
  are searched by the `fuzz` stream.
-/
namespace GA.C19
open GA

/-- in K, `os.RemoveAll p` can only fail to return when `Dir(p)` resolves to a fifo -/
theorem removeAll_blocked_only_if (w : World) (p : Str) (h : (step w (.removeAll p)).1 = .blocked) :
    ∃ q n, resolve w (dir p) true = .ok q ∧ w.fs.get q = some n ∧ n.kind = .fifo := by
  -- along the text of `step`: only the branch "ENOTDIR on the way", which opens the parent, can answer `blocked`
  simp only [step] at h
  split at h
  · cases h  -- the empty path
  · split at h
    · cases h  -- nothing there
    · revert h
      fun_cases removeAllNotDir w p
      case case1 q hq n hn hk => exact fun _ => ⟨q, n, hq, hn, by simpa using hk⟩
      all_goals nofun
    · cases h  -- another error of the resolution
    · split at h  -- resolved: gone already, the root, or removed
      · cases h
      · split at h <;> cases h

/-- `stat` of a path that resolves to a fifo says so -/
theorem stat_of_fifo (w : World) (s : Str) (q : Path) (n : Inode)
    (hq : resolve w s true = .ok q) (hn : w.fs.get q = some n) (hk : n.kind = .fifo) :
    notDirRes (step w (.stat s)).1 = true := by
  simp only [step, statRes, hq]
  unfold FS.get at hn
  cases hl : w.fs.lookup q with
  | none => simp [hl] at hn
  | some i =>
    simp only [hl, Option.bind_some] at hn
    simp [hn, notDirRes, statOf, hk]

/-- **the whiteout removal never blocks**: the guard refuses exactly the situation in which
    `os.RemoveAll` would open a fifo -/
theorem whiteout_remove_never_blocks (orig : Str) (w : World) : (whiteoutRemoveP orig).blocks w = false := by
  rw [whiteoutRemoveP, blocks_call, isBlockedR_false_of_ne (step_nb w (.stat _) trivial), Bool.false_or,
    show (step w (.stat (dir orig))).2 = w from rfl]
  split
  · rfl
  · rename_i hnd
    rw [blocks_call, isBlockedR_false_of_ne fun hr => ?_]
    · rfl
    · obtain ⟨q, n, hq, hn, hk⟩ := removeAll_blocked_only_if w orig hr
      exact hnd (stat_of_fifo w (dir orig) q n hq hn hk)

/-- **partial effects stay inside**: whatever a jailed extraction — successful, failing, or with any
    set of refused system calls — did to the filesystem lies under the jail root -/
theorem partial_effects_inside {α : Type} (body : Prog α) (w : World) (faults : Nat → Option Errno) (k : Nat)
    (hn : NextFresh w.fs) (rp : Path) (hroot : w.root = rp) (hex : (w.fs.lookup rp).isSome = true) :
    Confined rp w.fs (body.runF faults k w).2.fs :=
  C01.jailed_confined_faults [] body w faults k hn rp hroot hex

/-- the staged-header lookup is total: a link into the staging area whose file was never staged is
    an error, not a nil dereference -/
theorem missing_staged_is_error (st : LState) (e : Entry) (w : World)
    (h1 : (e.typ == .link && hasPrefix (clean e.linkname) whLinkDir) = true)
    (h2 : st.staged.find? (fun x => x.1 = base e.linkname) = none) :
    ((resolveSrcP st e).run w).1 = .error .err := by
  simp [resolveSrcP, h1, h2, Prog.run, pure]

end GA.C19
