import GA.Proofs.TreeDiffSpec
/-
  C10, the recursive diff: `FileInfo.Changes` reports exactly
    an addition      for every path present only in the new tree,
    a deletion       for every path present only in the old tree whose parent is a directory in both,
    a modification   for every path present in both whose compared fields differ, and for every
                     directory that has a reported change beneath it,
  and never the root — for all trees and every order of the children (Go's map iteration order).
-/
namespace GA.TreeDiff
open GA

mutual
/-- only directories have children (what `collectFileInfoForChanges` builds) -/
def Info.Shape : Info → Prop
  | .mk _ st ch => (st.isDir = false → ch = []) ∧ listShape ch
def listShape : List Info → Prop
  | [] => True
  | c :: cs => c.Shape ∧ listShape cs
end

theorem listShape_iff : ∀ {l : List Info}, listShape l ↔ ∀ c ∈ l, c.Shape
  | [] => by simp [listShape]
  | c :: cs => by simp [listShape, listShape_iff (l := cs)]

theorem Shape_iff (t : Info) : t.Shape ↔ (t.st.isDir = false → t.children = []) ∧ ∀ c ∈ t.children, c.Shape := by
  cases t
  simp only [Info.Shape, Info.children, Info.st, listShape_iff]

theorem look_Shape {p : List Str} {t n : Info} (ht : t.Shape) (h : look t p = some n) : n.Shape :=
  look_induct (fun n hn => ((Shape_iff n).mp hn).2) p ht h

@[simp] theorem findChild_nil (c : Str) : findChild [] c = none := rfl

theorem isDir_of_child {n m : Info} (hn : n.Shape) {c : Str} (h : findChild n.children c = some m) : n.st.isDir = true := by
  cases hd : n.st.isDir with
  | true => rfl
  | false => rw [((Shape_iff n).mp hn).1 hd] at h; cases h

theorem dirAt_of_child {n m : Info} (hn : n.Shape) {c : Str} (h : findChild n.children c = some m) (a : List Str) :
    dirAt a n.st = true := by
  simp [dirAt, isDir_of_child hn h]

theorem oldKids_false (oo : Option Info) : oldKids false oo = [] := by
  cases oo <;> rfl

theorem findChild_oldKids (oo : Option Info) (c : Str) :
    findChild (oldKids true oo) c = oo.bind (fun o => findChild o.children c) := by
  cases oo <;> rfl

/-- what is reported beneath `p` is decided at the two nodes at `p`, the old one found by plain lookup: on the
    way down every new node has a child, so it counts as a directory and the old node's children are looked at -/
theorem below_look (k : CKind) {r : List Str} (hr : r ≠ []) : ∀ (p path : List Str) (n0 : Info) (oo : Option Info), n0.Shape →
    (belowSpec path n0.children (oldKids (dirAt path n0.st) oo) (p ++ r) k ↔
      ∃ n, look n0 p = some n ∧
        belowSpec (path ++ p) n.children (oldKids (dirAt (path ++ p) n.st) (oo.bind (look · p))) r k)
  | [], path, n0, oo, _ => by simp [look]
  | c :: p, path, n0, oo, hs => by
    have hpr : p ++ r ≠ [] := fun e => hr (List.append_eq_nil_iff.mp e).2
    rw [List.cons_append]
    cases hc : findChild n0.children c with
    | none => simp [belowSpec_missing _ _ hc, look, hc, hpr]
    | some m =>
      rw [belowSpec_some hc, below_look k hr p _ m _ (((Shape_iff n0).mp hs).2 m (findChild_mem hc)),
        dirAt_of_child hs hc, findChild_oldKids]
      simp [look, hc, Option.bind_assoc, hpr]

theorem changes_eq (new old : Info) : changes new old = childChanges [] new.children old.children := by
  rw [changes, addChanges_eq]
  simp [ownChanges, dirAt, oldKids]

/-- what `Changes` returns, as a statement about `belowSpec` -/
theorem changes_iff (new old : Info) (hwf : new.WF) (q : List Str) (k : CKind) :
    ({ path := q, kind := k } : Change) ∈ changes new old ↔ belowSpec [] new.children old.children q k := by
  obtain ⟨h1, h2⟩ := (WF_iff new).mp hwf
  rw [changes_eq, kidsOK_of_WF h1 h2]
  simp

theorem changes_look (new old : Info) (hwf : new.WF) (hsh : new.Shape) (p : List Str) {r : List Str} (hr : r ≠ []) (k : CKind) :
    ({ path := p ++ r, kind := k } : Change) ∈ changes new old ↔
      ∃ n, look new p = some n ∧ belowSpec p n.children (oldKids (dirAt p n.st) (look old p)) r k := by
  rw [changes_iff new old hwf]
  have := below_look k hr p [] new (some old) hsh
  simpa [dirAt, oldKids] using this

/-- **the root itself is never reported** -/
theorem root_never_reported (new old : Info) (hwf : new.WF) (k : CKind) :
    ({ path := [], kind := k } : Change) ∉ changes new old := by
  rw [changes_iff new old hwf]
  exact belowSpec_nil

theorem snoc_induction {α} {P : List α → Prop} (nil : P []) (snoc : ∀ l a, P l → P (l ++ [a])) (l : List α) : P l := by
  rw [← List.reverse_reverse l]
  induction l.reverse with
  | nil => exact nil
  | cons a l ih => rw [List.reverse_cons]; exact snoc _ _ ih

theorem look_snoc (t : Info) (a : List Str) (c : Str) :
    look t (a ++ [c]) = (look t a).bind (fun n => findChild n.children c) := by
  rw [look_append]
  congr 1
  funext n
  simp [look]

theorem findIn_snoc (t : Info) (a : List Str) (c : Str) :
    findIn t.children (a ++ [c]) = (look t a).bind (fun n => findChild n.children c) := by
  rw [findIn_children t (by simp), look_snoc]

theorem parent_dir_iff (t : Info) (a : List Str) :
    (a = [] ∨ ∃ pn, findIn t.children a = some pn ∧ pn.st.isDir = true) ↔ ∃ n, look t a = some n ∧ dirAt a n.st = true := by
  cases a with
  | nil => simp [look, dirAt]
  | cons c r => simp [findIn_children t (List.cons_ne_nil c r), dirAt]

theorem leaf_add (path : List Str) (ns os : List Info) (c : Str) :
    belowSpec path ns os [c] .add ↔ ((findChild ns c).isSome = true ∧ findChild os c = none) := by
  cases hn : findChild ns c with
  | none => simp [belowSpec_missing [] _ hn]
  | some n => simp [belowSpec_some hn, belowSpec_nil, selfSpec]

theorem leaf_delete (path : List Str) (ns os : List Info) (c : Str) :
    belowSpec path ns os [c] .delete ↔ (findChild ns c = none ∧ (findChild os c).isSome = true) := by
  cases hn : findChild ns c with
  | none => simp [belowSpec_missing [] _ hn]
  | some n => simp [belowSpec_some hn, belowSpec_nil, selfSpec]

theorem leaf_modify (path : List Str) (ns os : List Info) (c : Str) :
    belowSpec path ns os [c] .modify ↔
      ∃ n o, findChild ns c = some n ∧ findChild os c = some o ∧
        (differs o.st n.st = true ∨ (n.st.isDir = true ∧ childChanges (path ++ [c]) n.children o.children ≠ [])) := by
  cases hn : findChild ns c with
  | none => simp [belowSpec_missing [] _ hn]
  | some n =>
    simp only [belowSpec_some hn, belowSpec_nil, or_false, true_and]
    cases ho : findChild os c with
    | none => simp [selfSpec, markedOf]
    | some o =>
      cases hdf : differs o.st n.st <;> cases hd : n.st.isDir <;> simp [selfSpec, markedOf, dirAt, oldKids, hdf, hd]

/-- **additions**: exactly the paths present only in the new tree -/
theorem additions_exact (new old : Info) (hwf : new.WF) (hsh : new.Shape) (p : List Str) :
    ({ path := p, kind := .add } : Change) ∈ changes new old ↔
      ((findIn new.children p).isSome = true ∧ findIn old.children p = none) := by
  induction p using snoc_induction with
  | nil => simpa [findIn] using root_never_reported new old hwf .add
  | snoc a c _ =>
    rw [changes_look new old hwf hsh a (by simp) .add, findIn_snoc, findIn_snoc]
    cases hn : look new a with
    | none => simp
    | some n =>
      simp only [Option.some.injEq, exists_eq_left', Option.bind_some, leaf_add]
      refine and_congr_right (fun hc => ?_)
      obtain ⟨m, hm⟩ := Option.isSome_iff_exists.mp hc
      rw [dirAt_of_child (look_Shape hsh hn) hm, findChild_oldKids]

/-- **deletions**: exactly the paths present only in the old tree whose parent is a directory on the new side too -/
theorem deletions_exact (new old : Info) (hwf : new.WF) (hsh : new.Shape) (p : List Str) :
    ({ path := p, kind := .delete } : Change) ∈ changes new old ↔
      (findIn new.children p = none ∧ (findIn old.children p).isSome = true ∧
        (p.dropLast = [] ∨ ∃ pn, findIn new.children p.dropLast = some pn ∧ pn.st.isDir = true) ∧ p ≠ []) := by
  induction p using snoc_induction with
  | nil => simpa using root_never_reported new old hwf .delete
  | snoc a c _ =>
    rw [changes_look new old hwf hsh a (by simp) .delete, findIn_snoc, findIn_snoc, List.dropLast_concat, parent_dir_iff]
    cases hn : look new a with
    | none => simp
    | some n =>
      simp only [Option.some.injEq, exists_eq_left', Option.bind_some, leaf_delete]
      cases hd : dirAt a n.st with
      | true => simp [findChild_oldKids]
      | false => simp [oldKids_false]

theorem below_reported (new old : Info) (hwf : new.WF) (hsh : new.Shape) {p : List Str} {n o : Info}
    (hn : look new p = some n) (ho : look old p = some o) (hd : n.st.isDir = true) :
    childChanges p n.children o.children ≠ [] ↔
      ∃ r k, r ≠ [] ∧ ({ path := p ++ r, kind := k } : Change) ∈ changes new old := by
  have hkids : KidsOK n.children := by
    obtain ⟨h1, h2⟩ := (WF_iff n).mp (look_induct (fun n hn => ((WF_iff n).mp hn).2) p hwf hn)
    exact kidsOK_of_WF h1 h2
  have hlook : ∀ {r : List Str} (k : CKind), r ≠ [] → (({ path := p ++ r, kind := k } : Change) ∈ changes new old ↔
      belowSpec p n.children o.children r k) := by
    intro r k hr
    rw [changes_look new old hwf hsh p hr k]
    simp [hn, ho, dirAt, hd, oldKids]
  constructor
  · intro h
    obtain ⟨⟨q, k⟩, hx⟩ := List.exists_mem_of_ne_nil _ h
    obtain ⟨r, rfl, hs⟩ := (hkids p o.children q k).mp hx
    have hr : r ≠ [] := fun e => belowSpec_nil (e ▸ hs)
    exact ⟨r, k, hr, (hlook k hr).mpr hs⟩
  · rintro ⟨r, k, hr, hm⟩
    exact List.ne_nil_of_mem ((hkids p o.children (p ++ r) k).mpr ⟨r, rfl, (hlook k hr).mp hm⟩)

/-- **modifications**: exactly the paths present in both trees whose compared fields differ, and the
    directories present in both that have a reported change beneath them -/
theorem modifications_exact (new old : Info) (hwf : new.WF) (hsh : new.Shape) (p : List Str) :
    ({ path := p, kind := .modify } : Change) ∈ changes new old ↔
      ∃ n o, findIn new.children p = some n ∧ findIn old.children p = some o ∧
        (differs o.st n.st = true ∨
          (n.st.isDir = true ∧ ∃ r k, r ≠ [] ∧ ({ path := p ++ r, kind := k } : Change) ∈ changes new old)) := by
  induction p using snoc_induction with
  | nil => simpa [findIn] using root_never_reported new old hwf .modify
  | snoc a c _ =>
    rw [changes_look new old hwf hsh a (by simp) .modify, findIn_snoc, findIn_snoc]
    refine Iff.trans (b := ∃ n o, (look new a).bind (fun m => findChild m.children c) = some n ∧
      (look old a).bind (fun m => findChild m.children c) = some o ∧ (differs o.st n.st = true ∨
        (n.st.isDir = true ∧ childChanges (a ++ [c]) n.children o.children ≠ []))) ?_ ?_
    · cases hm : look new a with
      | none => simp
      | some m =>
        simp only [Option.some.injEq, exists_eq_left', Option.bind_some, leaf_modify]
        refine exists_congr fun n => exists_congr fun o => and_congr_right fun hn => ?_
        rw [dirAt_of_child (look_Shape hsh hm) hn, findChild_oldKids]
    · refine exists_congr fun n => exists_congr fun o => and_congr_right fun hn => and_congr_right fun ho =>
        or_congr_right (and_congr_right fun hd => ?_)
      exact below_reported new old hwf hsh (by rw [look_snoc]; exact hn) (by rw [look_snoc]; exact ho) hd

/-- `b` is a proper ancestor of `a` -/
def Above (b a : List Str) : Prop := b <+: a ∧ b ≠ a

/-- no entry is preceded by an entry for something beneath it -/
def Ordered (l : List Change) : Prop := l.Pairwise (fun a b => ¬ Above b.path a.path)

/-- the later entry `b` is not at or above the earlier entry `a`; unless `strict`, it may be at it -/
def Apart (strict : Prop) (a b : Change) : Prop := b.path <+: a.path → ¬ strict ∧ b.path = a.path

theorem Apart.of_not_prefix {strict : Prop} {a b : Change} (h : ¬ b.path <+: a.path) : Apart strict a b :=
  fun h' => absurd h' h

theorem not_prefix_below {p b : List Str} {c : Str} (h : (p ++ [c]) <+: b) : ¬ b <+: p := fun h' => by
  have := (h.trans h').length_le
  simp at this
  omega

theorem not_prefix_heads {p a b : List Str} {c c' : Str} (ha : (p ++ [c]) <+: a) (hb : (p ++ [c']) <+: b) (h : c ≠ c') :
    ¬ b <+: a := fun h' => by
  have := (List.prefix_of_prefix_length_le ha (hb.trans h') (by simp)).eq_of_length (by simp)
  exact h (by simpa using this)

theorem oldKids_WF (d : Bool) {old : Option Info} (h : ∀ o, old = some o → o.WF) :
    NodupNames (oldKids d old) ∧ ∀ o ∈ oldKids d old, o.WF := by
  fun_cases oldKids d old
  case case1 o _ => exact (WF_iff o).mp (h o rfl)
  all_goals exact ⟨List.nodup_nil, nofun⟩

theorem apart_kids (strict : Prop) {news : List Info} (hnd : NodupNames news) (hnode : ∀ c ∈ news, NodeOK c)
    (ih : ∀ c ∈ news, ∀ (path : List Str) (old : Option Info) (m : Bool), (strict → ∀ o, old = some o → o.WF) →
      (addChanges path c old m).Pairwise (Apart strict))
    (path : List Str) (olds : List Info) (holds : strict → NodupNames olds ∧ ∀ o ∈ olds, o.WF) :
    (childChanges path news olds).Pairwise (Apart strict) := by
  rw [childChanges_eq path news olds hnd, List.pairwise_append, List.pairwise_flatMap]
  refine ⟨⟨fun c hc => ?_, ?_⟩, ?_, ?_⟩
  · -- one child: the parent's entry for it, then its own call, which then reports nothing at its own path (`marked`)
    unfold childSeg
    rw [List.pairwise_append]
    refine ⟨by split <;> simp, ih c hc _ _ _ (fun hs o ho => (holds hs).2 o (findChild_mem ho)), fun a ha b hb => ?_⟩
    split at ha
    · rename_i hm
      cases List.mem_singleton.mp ha
      cases ho : findChild olds c.name with
      | none => rw [ho] at hm; cases hm
      | some o =>
        rw [hm, ho] at hb
        obtain ⟨_, hp⟩ := marked_below (hnode c hc) hb
        exact Apart.of_not_prefix (not_prefix_below hp)
    · cases ha
  · refine hnd.pairwise.imp_of_mem (fun h1 h2 hne x hx y hy => ?_)
    exact Apart.of_not_prefix (not_prefix_heads (seg_prefix (hnode _ h1) hx) (seg_prefix (hnode _ h2) hy) hne)
  · rw [List.pairwise_map, List.pairwise_filter]
    by_cases hs : strict
    · exact (holds hs).1.pairwise.imp (fun hne _ _ => Apart.of_not_prefix (not_prefix_heads (List.prefix_refl _) (List.prefix_refl _) hne))
    · exact List.pairwise_of_forall_mem_list (fun a _ b _ _ _ h => ⟨hs, h.eq_of_length (by simp)⟩)
  · intro a ha b hb
    obtain ⟨c, hc, ha⟩ := List.mem_flatMap.mp ha
    obtain ⟨o, ho, rfl⟩ := List.mem_map.mp hb
    have hno := (List.mem_filter.mp ho).2
    have hne : c.name ≠ o.name := fun e => by rw [← e, findChild_of_mem hnd hc] at hno; cases hno
    exact Apart.of_not_prefix (not_prefix_heads (seg_prefix (hnode c hc) ha) (List.prefix_refl _) hne)

/-- **no entry is followed by an entry at or above its path**; when nothing is assumed of the old tree, an old
    name that occurs twice is deleted twice, so there "above" only -/
theorem apart_main (strict : Prop) (info : Info) : info.WF → ∀ (path : List Str) (old : Option Info) (m : Bool),
    (strict → ∀ o, old = some o → o.WF) → (addChanges path info old m).Pairwise (Apart strict) := by
  induction info using Info.induction with
  | step name st ch ih =>
    intro hwf path old m hold
    obtain ⟨hnd, hch⟩ := (WF_iff _).mp hwf
    have hnode : ∀ c ∈ ch, NodeOK c := fun c hc => main c (hch c hc)
    rw [addChanges_eq, List.pairwise_append]
    refine ⟨pairwise_ownChanges _ _ _ _ _, apart_kids strict hnd hnode (fun c hc => ih c hc (hch c hc)) path _
      (fun hs => oldKids_WF _ (hold hs)), fun a ha b hb => ?_⟩
    obtain ⟨r, hq, hs⟩ := (kidsOK hnd hnode path _ b.path b.kind).mp hb
    obtain ⟨_, hp⟩ := belowSpec_head hs
    rw [← hq] at hp
    exact Apart.of_not_prefix ((mem_ownChanges.mp ha).1 ▸ not_prefix_below hp)

theorem ordered_main (info : Info) : info.WF → ∀ (path : List Str) (old : Option Info) (m : Bool),
    Ordered (addChanges path info old m) :=
  fun hwf path old m => (apart_main False info hwf path old m (fun h => h.elim)).imp (fun h hab => hab.2 (h hab.1).2)

/-- **a directory's own entry precedes the entries inside it**: in the list `Changes` returns no entry
    is preceded by an entry for a path beneath it -/
theorem parent_first (new old : Info) (hwf : new.WF) (i j : Nat) (a b : Change)
    (hi : (changes new old)[i]? = some a) (hj : (changes new old)[j]? = some b) (hab : Above a.path b.path) :
    i < j := by
  obtain ⟨hil, rfl⟩ := List.getElem?_eq_some_iff.mp hi
  obtain ⟨hjl, rfl⟩ := List.getElem?_eq_some_iff.mp hj
  rcases Nat.lt_trichotomy i j with h | rfl | h
  · exact h
  · exact absurd rfl hab.2
  · exact absurd hab (List.pairwise_iff_getElem.mp (ordered_main new hwf [] (some old) false) j i hjl hil h)

/-! ### the hypotheses are satisfiable, and the statements say something on a concrete pair of trees -/

def exFile : Stat := { mode := 0o644, isDir := false, uid := 0, gid := 0, rdev := 0, size := 1, mtimeSec := 5, mtimeNsec := 0, cap := [] }
def exDir : Stat := { exFile with mode := 0o755, isDir := true }
def exNew : Info := .mk [] exDir [.mk b!"a" exDir [.mk b!"x" exFile []], .mk b!"f" { exFile with size := 2 } []]
def exOld : Info := .mk [] exDir [.mk b!"a" exDir [.mk b!"y" exFile []], .mk b!"f" exFile [], .mk b!"g" exFile []]

example : exNew.WF ∧ exNew.Shape := by
  simp [exNew, Info.WF, listWF, Info.Shape, listShape, NodupNames, Info.name, exDir, exFile]

example : changes exNew exOld =
    [⟨[b!"a"], .modify⟩, ⟨[b!"a", b!"x"], .add⟩, ⟨[b!"a", b!"y"], .delete⟩, ⟨[b!"f"], .modify⟩, ⟨[b!"g"], .delete⟩] := by
  decide

end GA.TreeDiff
