import GA.Proofs.UnpackIter
/-
  C20 — extraction never reports success for an archive it did not fully write.
  Decided here, for the plain and the jailed extractor alike (they run the same `unpackP`): along
  every execution, for every outcome of every system call, once a MUTATING call has been refused
  with an error that is not one of the documented tolerances, the result is not success.  Since
  the fault oracle of `runF` refuses calls exactly by handing back an error, this covers "no inode
  for the k-th object, no space for the k-th block, for every k" and every other refusal.
  Partial: close(2) is modelled as infallible; faults other than ENOSPC exist only in the model
  (the `faults` stream enumerates tmpfs inode/block limits and failing readers on the real code).
-/
namespace GA.C20
open GA

/-- calls that change the filesystem -/
def isMut : Sys → Bool
  | .mkdir _ _ | .mkdirAll _ _ | .createWrite _ _ _ | .link _ _ | .symlink _ _ | .mknod _ _ _ _
  | .chown _ _ _ _ | .chmod _ _ | .setxattr _ _ _ _ | .utimes _ _ _ | .removeAll _ | .mkdtemp _ _ => true
  | _ => false

/-- the documented tolerances: attribute-setting refused with EPERM (ENOTSUP only with
    BestEffortXattrs); fifo creation refused with EPERM inside a user namespace -/
def tolerated (o : Opts) : Sys → Errno → Bool
  | .setxattr _ _ _ _, .EPERM => true
  | .setxattr _ _ _ _, .ENOTSUP => o.bestEffortXattrs
  | .mknod _ .fifo _ _, .EPERM => o.inUserNS
  | _, _ => false

/-- `Strict o fail p`: on every path through `p`, once a mutating call returned a non-tolerated
    error (or never returned), every leaf still reachable satisfies `fail` -/
def Strict {α : Type} (o : Opts) (fail : α → Prop) : Prog α → Prop
  | .ret _ => True
  | .call s k => ∀ r, Strict o fail (k r) ∧
      (isMut s = true → (match r with
        | .err e => tolerated o s e = false
        | .blocked => True
        | _ => False) → (k r).All fail)

theorem Strict.bind {α β : Type} (o : Opts) {failA : α → Prop} {failB : β → Prop} :
    ∀ (m : Prog α) (f : α → Prog β), Strict o failA m → (∀ a, failA a → (f a).All failB) →
      (∀ a, Strict o failB (f a)) → Strict o failB (m.bind f)
  | .ret a, _, _, _, hf => hf a
  | .call _ k, f, hm, hfail, hf => fun r =>
    ⟨Strict.bind o (k r) f (hm r).1 hfail hf,
     fun hmut hr => Prog.All.bind (k r) f ((hm r).2 hmut hr) hfail⟩

theorem Strict.mono {α : Type} (o : Opts) {f g : α → Prop} (hfg : ∀ a, f a → g a) :
    ∀ (p : Prog α), Strict o f p → Strict o g p
  | .ret _, _ => True.intro
  | .call _ k, h => fun r => ⟨Strict.mono o hfg (k r) (h r).1, fun hm hr => Prog.All.mono hfg _ ((h r).2 hm hr)⟩

theorem strict_sys (o : Opts) (s : Sys) :
    Strict o (fun r => isErr r = true) (sys s) := by
  intro r
  refine ⟨True.intro, fun _ hr => ?_⟩
  cases r <;> simp_all [Prog.All, isErr]

theorem strict_info (o : Opts) (s : Sys) (h : isMut s = false) (fail : Res → Prop) :
    Strict o fail (sys s) := by
  intro r
  exact ⟨True.intro, fun hm => by rw [h] at hm; cases hm⟩

theorem strict_ret {α : Type} (o : Opts) (fail : α → Prop) (a : α) : Strict o fail (Prog.ret a) := True.intro

theorem strict_look {β : Type} (o : Opts) (s : Sys) (h : isMut s = false) {fail : β → Prop} (f : Res → Prog β)
    (hf : ∀ r, Strict o fail (f r)) : Strict o fail (sys s >>= f) :=
  Strict.bind o _ _ (strict_info o s h (fun _ => False)) (fun _ h => h.elim) hf

theorem strict_stepR (o : Opts) (m rest : Prog Res) (hm : Strict o (fun r => isErr r = true) m)
    (hrest : Strict o (fun r => isErr r = true) rest) :
    Strict o (fun r => isErr r = true) (m >>= fun r => if isErr r then pure r else rest) :=
  Strict.bind o m _ hm (fun r hr => by simp only [hr, if_true]; exact Prog.All.pure _ hr) (fun _ => ite_both (strict_ret o _ _) hrest)

/-- `setPermissions`: a refused chmod or chown is reported -/
theorem strict_setPermissions (o : Opts) (p : Str) (mode : Nat) (owner : Option (Nat × Nat)) :
    Strict o (fun r => isErr r = true) (setPermissionsP p mode owner) := by
  unfold setPermissionsP
  refine strict_look o _ rfl _ (fun r => ?_)
  split
  · refine strict_stepR o _ _ (ite_both (strict_sys o _) (strict_ret o _ _)) ?_
    split
    · exact strict_ret o _ _
    · exact ite_both (strict_ret o _ _) (strict_sys o _)
  · exact strict_ret o _ _

theorem strict_setAll (o : Opts) (mode : Nat) (owner : Option (Nat × Nat)) : ∀ (ps : List Str),
    Strict o (fun r => isErr r = true) (setAll mode owner ps)
  | [] => strict_ret o _ _
  | p :: ps => strict_stepR o _ _ (strict_setPermissions o p mode owner) (strict_setAll o mode owner ps)

theorem strict_missingOf (o : Opts) (fail : List Str → Prop) : ∀ (ds : List Str), Strict o fail (missingOf ds)
  | [] => strict_ret o _ _
  | _ :: ds => strict_look o _ rfl _ (fun _ =>
      Strict.bind o (failA := fun _ => False) _ _ (strict_missingOf o _ ds) (fun _ h => h.elim) (fun _ => strict_ret o _ _))

theorem strict_mkdirAllAndChown (o : Opts) (path : Str) (mode : Nat) (owner : Option (Nat × Nat)) :
    Strict o (fun r => isErr r = true) (mkdirAllAndChownP path mode owner) := by
  unfold mkdirAllAndChownP
  refine strict_look o _ rfl _ (fun r => ?_)
  split
  · exact ite_both (strict_ret o _ _) (strict_ret o _ _)
  · exact Strict.bind o (failA := fun _ => False) _ _ (strict_missingOf o _ _) (fun _ h => h.elim)
      (fun _ => strict_stepR o _ _ (strict_sys o _) (strict_setAll o _ _ _))

theorem strict_impliedDirs (o : Opts) (dest n : Str) : Strict o (fun r => isErr r = true) (impliedDirsP dest n o) :=
  ite_both (strict_ret o _ _)
    (strict_look o _ rfl _ (fun _ => ite_both (strict_mkdirAllAndChown o _ _ _) (strict_ret o _ _)))

/-- the result of a mutating call, classified: "refused for a reason that is not tolerated" -/
def Refused (o : Opts) (s : Sys) (r : Res) : Prop :=
  match r with
  | .err e => tolerated o s e = false
  | .blocked => True
  | _ => False

theorem strict_sys_refused (o : Opts) (s : Sys) : Strict o (Refused o s) (sys s) := by
  intro r
  exact ⟨True.intro, fun _ hr => hr⟩

/-- xattrs: EPERM (and ENOTSUP with BestEffortXattrs) is tolerated, anything else is reported -/
theorem strict_setXattrs (o : Opts) (path : Str) : ∀ (xs : List (Str × List UInt8)),
    Strict o (fun r => isErr r = true) (setXattrsP path o.bestEffortXattrs xs) := by
  intro xs
  fun_induction setXattrsP path o.bestEffortXattrs xs
  case case1 => exact strict_ret o _ _
  case case2 k v _ ih =>
    refine Strict.bind o _ _ (strict_sys_refused o (.setxattr path k v false)) ?_ fun _ => ite_both (strict_ret o _ _) ih
    intro r hr
    have : (isErr r && !xattrTolerated o.bestEffortXattrs r) = true := by
      revert hr
      cases r with
      | err e => cases e <;> simp [Refused, tolerated, isErr, xattrTolerated]
      | blocked => simp [isErr, xattrTolerated]
      | _ => exact False.elim
    simp only [this, if_true]
    have he : isErr r = true := by simp at this; exact this.1
    exact Prog.All.pure _ he

theorem ne_ok_err : Out.err ≠ Out.ok := by decide

theorem strict_step (o : Opts) (m : Prog Res) (rest : Prog Out) (hm : Strict o (fun r => isErr r = true) m)
    (hrest : Strict o (· ≠ .ok) rest) : Strict o (· ≠ .ok) (m >>= fun r => if isErr r then pure .err else rest) :=
  Strict.bind o m _ hm (fun r hr => by simp only [hr, if_true]; exact Prog.All.pure _ ne_ok_err)
    (fun _ => ite_both (strict_ret o _ _) hrest)

/-- owner, xattrs, mode, times: every refusal other than the tolerated xattr errors is fatal -/
theorem strict_applyMeta (o : Opts) (path : Str) (e : Entry) : Strict o (· ≠ .ok) (applyMetaP path e o) := by
  -- `handleLChmod` and the time logic of `createTarFile`: on a hard-link entry the call is made only after a look
  have look : ∀ (s : Sys), Strict o (fun r => isErr r = true) (do
      let l ← sys (.lstat path)
      if notSymlink l then sys s else pure .ok) := fun s =>
    strict_look o _ rfl _ (fun _ => ite_both (strict_sys o _) (strict_ret o _ _))
  unfold applyMetaP
  refine strict_step o _ _ (ite_both (strict_ret o _ _) (strict_sys o _)) ?_
  refine strict_step o _ _ (strict_setXattrs o path e.xattrs) ?_
  refine strict_step o _ _ (ite_both (look _) (ite_both (strict_sys o _) (strict_ret o _ _))) ?_
  exact strict_step o _ _ (ite_both (look _) (ite_both (strict_sys o _) (strict_sys o _))) (strict_ret o _ _)

/-- `createTarFile`: a refused creation is fatal (device nodes are skipped, and fifo creation EPERM
    is tolerated, only inside a user namespace) -/
theorem strict_createTarFile (o : Opts) (path xd : Str) (e : Entry) : Strict o (· ≠ .ok) (createTarFileP path xd e o) := by
  have made : ∀ (s : Sys), Strict o (· ≠ .ok) (do
      let r ← sys s
      if isErr r then return Out.err
      applyMetaP path e o) := fun s => strict_step o _ _ (strict_sys o s) (strict_applyMeta o path e)
  fun_cases createTarFileP path xd e o
  case case1 => exact strict_look o _ rfl _ (fun _ => ite_both (strict_applyMeta o path e) (made _))
  case case2 => exact strict_step o _ _ (strict_sys o _) (ite_both (strict_ret o _ _) (strict_applyMeta o path e))
  case case7 =>
    -- a fifo: of the refusals only EPERM inside a user namespace is passed over
    refine Strict.bind o _ _ (strict_sys_refused o (.mknod path .fifo e.mode (0, 0))) (fun r hr => ?_)
      (fun _ => ite_both (ite_both (strict_ret o _ _) (strict_ret o _ _)) (strict_applyMeta o path e))
    have hre : isErr r = true := by
      cases r <;> first | rfl | exact hr.elim
    have hnt : (isEPERM r && o.inUserNS) = false := by
      cases r with
      | err er => cases er <;> first | rfl | (simpa [Refused, tolerated, isEPERM] using hr)
      | _ => rfl
    simp only [hre, hnt, if_true, Bool.false_eq_true, if_false]
    exact Prog.All.pure _ ne_ok_err
  -- a device outside a user namespace, a link whose target passed the guard: the creating call, then the metadata
  case case4 | case6 | case9 | case11 => exact made _
  -- the rest make no call
  all_goals exact strict_ret o _ _

theorem strict_dirTimes (o : Opts) (dest : Str) : ∀ (es : List Entry), Strict o (· ≠ .ok) (dirTimesP dest es)
  | [] => strict_ret o _ _
  | _ :: es => strict_look o _ rfl _ (fun _ => ite_both (strict_dirTimes o dest es)
      (strict_step o _ _ (strict_sys o _) (strict_dirTimes o dest es)))

/-- overlay conversion on extraction: a refused setxattr / mknod / chown is reported -/
theorem strict_convertRead (o : Opts) (p : Str) (e : Entry) : Strict o (fun r => r = none) (convertReadP p e) := by
  have call : ∀ (s : Sys) (rest : Prog (Option Bool)), Strict o (fun r => r = none) rest →
      Strict o (fun r => r = none) (.call s (fun r => if isErr r then .ret none else rest)) := fun s rest hrest =>
    Strict.bind o (sys s) (fun r => if isErr r then .ret none else rest) (strict_sys o s)
      (fun r hr => by simp only [hr, if_true]; rfl) (fun _ => ite_both True.intro hrest)
  unfold convertReadP
  exact ite_both (call _ _ True.intro) (ite_both (call _ _ (call _ _ True.intro)) True.intro)

def failU (r : Except Out (List Entry)) : Prop := ∃ out, r = .error out ∧ out ≠ .ok

theorem strict_unpackClearK (o : Opts) (dest : Str) (e : Entry) (p : Str) (dirs : List Entry)
    (go : Prog (Except Out (List Entry))) (hgo : Strict o failU go) : Strict o failU (unpackClearK dest o e p dirs pure go) := by
  unfold unpackClearK
  refine Strict.bind o _ _ (strict_impliedDirs o dest _) (fun i hi => by rw [if_pos hi]; exact ⟨_, rfl, ne_ok_err⟩)
    fun i => ite_both trivial ?_
  refine strict_look o _ rfl _ fun l => ite_both trivial (ite_both trivial ?_)
  exact Strict.bind o (failA := fun r => isErr r = true) _ _ (ite_both (strict_sys o _) (strict_ret o _ _))
    (fun rm hrm => by rw [if_pos hrm]; exact ⟨_, rfl, ne_ok_err⟩) fun rm => ite_both trivial hgo

theorem strict_unpackWriteK (o : Opts) (dest : Str) (e : Entry) (p : Str) (dirs : List Entry) :
    Strict o failU (unpackWriteK dest o e p dirs pure) := by
  fun_cases unpackWriteK dest o e p dirs pure
  case case1 => trivial
  case case2 =>
    refine Strict.bind o (failA := fun (r : Option Bool) => r = none) _ _
      (ite_both (strict_convertRead o _ _) (strict_ret o _ _)) ?_ fun conv => ?_
    · intro conv hconv; subst hconv; exact ⟨_, rfl, ne_ok_err⟩
    · split
      · trivial
      · trivial
      · exact Strict.bind o (failA := fun out => out ≠ .ok) _ _ (strict_createTarFile o _ _ _)
          (fun out hout => by rw [if_pos (by simpa using hout)]; exact ⟨_, rfl, hout⟩) fun out => ite_both trivial trivial

/-- an iteration: once a mutating call has been refused it ends the extraction with an error that is not success -/
theorem strict_unpackIter (o : Opts) (dest : Str) (e : Entry) (dirs : List Entry) :
    Strict o failU (unpackIterP dest o e dirs) := by
  rw [unpackIterP_eq]
  fun_cases unpackIterK dest o e dirs pure
  case case4 => exact strict_unpackClearK o dest e _ dirs _ (strict_unpackWriteK o dest e _ dirs)
  all_goals trivial

/-- **the whole extraction loop is strict**: a refused mutating call, at any entry, at any step,
    makes the result an error -/
theorem strict_unpackLoop (o : Opts) (dest : Str) : ∀ (es dirs : List Entry), Strict o (· ≠ .ok) (unpackLoop dest o es dirs)
  | [], dirs => by simp only [unpackLoop]; exact strict_dirTimes o dest _
  | e :: es, dirs => by
    rw [unpackLoop_cons]
    refine Strict.bind o _ _ (strict_unpackIter o dest e dirs) (fun r ⟨out, hr, h⟩ => hr ▸ h) fun r => ?_
    match r with
    | .error out => exact strict_ret o _ _
    | .ok d => exact strict_unpackLoop o dest es d

/-- run with a fault oracle and record whether a mutating call was refused with a non-tolerated error -/
def runW {α : Type} (o : Opts) (faults : Nat → Option Errno) : Nat → Prog α → World → α × Bool
  | _, .ret a, _ => (a, false)
  | i, .call s k, w =>
    match faults i with
    | some e =>
      let r := runW o faults (i + 1) (k (.err e)) w
      (r.1, r.2 || (isMut s && !tolerated o s e))
    | none =>
      let r := runW o faults (i + 1) (k (step w s).1) (step w s).2
      (r.1, r.2 || (isMut s && (match (step w s).1 with
        | .err e => !tolerated o s e
        | .blocked => true
        | _ => false)))

theorem all_runW {α : Type} (o : Opts) (faults : Nat → Option Errno) {P : α → Prop} :
    ∀ (p : Prog α) (i : Nat) (w : World), p.All P → P (runW o faults i p w).1 := by
  intro p i w
  fun_induction runW o faults i p w
  case case1 => exact id
  case case2 ih | case3 ih => exact fun h => ih (h _)

theorem strict_runW {α : Type} (o : Opts) (faults : Nat → Option Errno) {fail : α → Prop} :
    ∀ (p : Prog α) (i : Nat) (w : World), Strict o fail p → (runW o faults i p w).2 = true → fail (runW o faults i p w).1 := by
  intro p i w
  fun_induction runW o faults i p w
  case case1 => nofun
  case case2 k _ e _ _ ih =>
    -- an injected fault
    intro hs h
    simp only [Bool.or_eq_true, Bool.and_eq_true, Bool.not_eq_true'] at h
    rcases h with h | ⟨hm, ht⟩
    · exact ih (hs _).1 h
    · exact all_runW o faults (k _) _ _ ((hs (.err e)).2 hm ht)
  case case3 s k w _ _ ih =>
    -- the kernel's own answer
    intro hs h
    simp only [Bool.or_eq_true, Bool.and_eq_true] at h
    rcases h with h | ⟨hm, ht⟩
    · exact ih (hs _).1 h
    · refine all_runW o faults (k _) _ _ ((hs _).2 hm ?_)
      revert ht
      cases (step w s).1 <;> simp

/-- **success ⇒ no untolerated refusal**: if extraction (plain `Untar`, or the body of the chrooted
    one) returns success under ANY fault schedule, then no mutating system call was refused — neither
    by the injected faults (no inode for the k-th object, no space for the k-th block, for every k)
    nor by the filesystem itself — other than the documented tolerances -/
theorem ok_implies_no_untolerated_fault (o : Opts) (dest : Str) (es : List Entry) (w : World)
    (faults : Nat → Option Errno) (h : (runW o faults 0 (unpackP dest o es) w).1 = .ok) :
    (runW o faults 0 (unpackP dest o es) w).2 = false := by
  cases hb : (runW o faults 0 (unpackP dest o es) w).2 with
  | false => rfl
  | true =>
    have := strict_runW o faults (unpackP dest o es) 0 w (strict_unpackLoop o dest es []) hb
    exact absurd h this

/-- non-vacuity: a refused `mkdir` for the only entry makes extraction fail -/
example :
    let e : Entry := { typ := .dir, name := b!"d", mode := 0o755 }
    let w : World := { fs := FS.empty.create [b!"x"] { kind := .dir, perm := 0o755, uid := 0, gid := 0, mtime := some 0 } }
    (runW {} (fun i => if i = 3 then some .ENOSPC else none) 0 (unpackP b!"/x" {} [e]) w) = (.err, true) ∧
    (runW {} (fun _ => none) 0 (unpackP b!"/x" {} [e]) w) = (.ok, false) := by decide +kernel

end GA.C20
