import GA.Props.C06
/-
  C05 — extraction result equals the last-entry-wins merge model (mechanism-level clauses that
  hold for every filesystem).  The reference model the property names is the mechanism model
  itself (`unpackP`), which the extract stream compares with the real code on the whole world
  tree; a separate lexical `mergeSpec` with a refinement proof is not provided (see DESIGN).
-/
namespace GA.C05
open GA GA.C06

/-- **PAX global headers produce nothing** -/
theorem xglobal_produces_nothing (dest : Str) (o : Opts) (e : Entry) (es dirs : List Entry) (h : e.typ = .xglobal) :
    unpackLoop dest o (e :: es) dirs = unpackLoop dest o es dirs := by
  simp [unpackLoop, h]

/-- **excluded name prefixes produce nothing** -/
theorem excluded_produces_nothing (dest : Str) (o : Opts) (e : Entry) (es dirs : List Entry) (h : e.typ ≠ .xglobal)
    (hx : o.excludes.any (fun x => hasPrefix (clean e.name) x) = true) :
    unpackLoop dest o (e :: es) dirs = unpackLoop dest o es dirs := by
  have : (e.typ == Typ.xglobal) = false := by simpa using h
  simp [unpackLoop, this, hx]

/-- **times are clamped into the representable range** -/
theorem clamp_range (t : Int) : minT ≤ boundTime t ∧ boundTime t ≤ maxT := by
  unfold boundTime minT maxT
  split
  · omega
  · omega

theorem clamp_identity (t : Int) (h1 : 0 ≤ t) (h2 : t ≤ 9223372036) : boundTime t = t := by
  unfold boundTime minT maxT
  split
  · omega
  · rfl

/-- the regenerated constants behind implied directories -/
theorem implied_directory_mode : impliedMode = 0o755 := by decide

/-- **an escaping entry name is refused before any system call is issued for it**: the loop returns
    the breakout outcome and the world is what the previous entries left -/
theorem escaping_name_no_effect (dest : Str) (o : Opts) (e : Entry) (es dirs : List Entry) (w : World) (out : Out)
    (h : e.typ ≠ .xglobal) (hx : o.excludes.any (fun x => hasPrefix (clean e.name) x) = false)
    (hg : guardName dest (clean e.name) = .error out) :
    (unpackLoop dest o (e :: es) dirs).run w = (out, w) := by
  have : (e.typ == Typ.xglobal) = false := by simpa using h
  simp [unpackLoop, this, hx, hg, Prog.run, pure]

/-- the same in layer apply: nothing but the running size changes -/
theorem escaping_name_no_effect_layer (dest : Str) (o : Opts) (e : Entry) (es : List Entry) (st : LState) (w : World)
    (out : Out) (hx : e.typ ≠ .xglobal) (hm : hasPrefix (clean e.name) whMetaPrefix = false)
    (hg : guardName dest (clean e.name) = .error out) (ht : st.tmp = []) :
    ((layerLoop dest o (e :: es) st).run w).2 = w ∧ ((layerLoop dest o (e :: es) st).run w).1.1 = out := by
  -- the iteration passes staging and the reserved names by and ends at the guard
  have hrun : layerLoop dest o (e :: es) st = layerFinish dest { st with size := st.size + e.size } out := by
    rw [layerLoop_eq, layerIterK, if_neg (by simpa using hx), stageP_skip _ _ _ _ _ (by simp [hm])]
    show layerNamedK dest o e _ (layerK dest o es) = _
    rw [layerNamedK, if_neg (by simp [hm]), hg]
    rfl
  rw [hrun, layerFinish, if_neg (by simpa using ht)]
  exact ⟨rfl, rfl⟩


/-- the model's decision about an object that already exists at the entry's path is, case by case, the
    if-chain the extractor reads out of `Unpack`'s source -/
theorem actOf_is_generated (o : Opts) (s : StatInfo) (e : Entry) (self : Bool) :
    ∃ f, Facts.unpackDecision? = some f ∧
      actOf o (.stat s) e self = f o.noOverwriteDirNonDir (s.kind == .dir) (e.typ == .dir) self := by
  refine ⟨_, rfl, ?_⟩
  -- by the sixteen values of the four tests, not by comparing the two if-chains as text: a rewrite of the
  -- chain in the source that decides the same keeps this proof
  unfold actOf
  cases o.noOverwriteDirNonDir <;> cases hk : (s.kind == Kind.dir) <;> cases ht : (e.typ == Typ.dir) <;> cases self <;>
    simp_all

/-- and nothing is removed, skipped or refused when `lstat` finds nothing -/
theorem actOf_absent (o : Opts) (e : Entry) (self : Bool) (r : Res) (h : ∀ s, r ≠ .stat s) : actOf o r e self = 0 := by
  unfold actOf
  split
  · rename_i s; exact absurd rfl (h s)
  · rfl

end GA.C05
