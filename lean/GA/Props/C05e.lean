import GA.Props.C05d
/-
  C05, the named half for directories: **a directory entry merges, and the last one wins**.  For every archive
  `pre ++ e :: post` without symbolic-link entries, every option set of the default whiteout format and every
  prior symlink-free world: if the plain `Untar` reports success, `e` is a directory entry that is not excluded
  and does not name the destination itself, and no later entry names the same path or a path above it — later
  entries *beneath* it are welcome, that is what a directory is for — then afterwards the path names a
  directory with `e`'s mode bits, `e`'s (clamped) modification time and the translated or overriding owner.

  The time is the interesting part: creating the later entries beneath the directory changes its mtime, and
  the extractor repairs that in a deferred pass after the last entry.  The proof follows the deferred list
  through the fold (`loopRun_dirs_shape`), shows that the remaining entries leave everything but the time of
  the directory alone (`Framed.sole`, with "a directory has one name" from the invariant), and that the
  pass sets the time from the last entry for this path and that no other element of the list reaches this
  inode (`dirTimes_sets`).
-/
namespace GA.C05
open GA

theorem untar_dir_last_wins (dest : Str) (o : Opts) (pre post : List Entry) (e : Entry) (w : World)
    (habs : isAbs dest = true) (hov : o.overlay = false)
    (hsym : ∀ x ∈ pre ++ e :: post, x.typ ≠ .sym)
    (hw : LW (pathComps (clean dest)) w)
    (hdir : e.typ = .dir)
    (hnx : o.excludes.any (fun x => hasPrefix (clean e.name) x) = false)
    (hne : pathComps (join (clean dest) (clean e.name)) ≠ pathComps (clean dest))
    (hcov : ¬ Cov (touched (clean dest) post) (pathComps (join (clean dest) (clean e.name))))
    (hok : ((untarP dest o (pre ++ e :: post)).run w).1 = .ok) :
    ∃ e' i n, remapE o e = some e' ∧
      ((untarP dest o (pre ++ e :: post)).run w).2.fs.lookup (pathComps (join (clean dest) (clean e.name))) = some i ∧
      ((untarP dest o (pre ++ e :: post)).run w).2.fs.inode i = some n ∧
      n.kind = .dir ∧ n.perm = e.mode &&& 0o7777 ∧ n.mtime = some (boundTime e.mtime) ∧
      (o.noLchown = false → (n.uid, n.gid) = o.chownOpts.getD (e'.uid, e'.gid)) := by
  have hd : CleanAbs (clean dest) := clean_cleanAbs dest habs
  obtain ⟨d1, w1, d2, w2, d3, w3, hw1, hd1, hit, hw2, hpo, hw3, hd3ok, hF, hfinal⟩ :=
    loopRun_split _ (clean dest) o hd rfl hov pre post e [] w hsym hw (fun _ h => by cases h) hok
  unfold untarP unpackP at hok ⊢
  rw [hfinal] at hok ⊢
  obtain ⟨_, e', i, n2, hrem, hd2, hl2, hi2, hfin⟩ :=
    iter_dir_post _ (clean dest) o hd rfl hov e d1 w1 hw1 hdir hnx hne d2 w2 hit
  obtain ⟨hl3, _, he3, _⟩ := hF.sole hl2 (fun p hp => hw2.inv.dirone _ _ i n2 hp hl2 hi2 hfin.1) hcov
  rw [hi2] at he3
  obtain ⟨n3, hi3, hen3⟩ := eraseM_of_map he3
  obtain ⟨news, hshape, hnews⟩ := loopRun_dirs_shape (clean dest) o post d2 w2 d3 w3 hpo
  have hrev : d3.reverse = d1.reverse ++ ({ e' with name := clean e.name } :: news.reverse) := by
    rw [hshape, hd2]; simp
  rw [hrev] at hok ⊢
  have hav : ∀ x ∈ news.reverse, pathComps (join (clean dest) x.name) ≠ pathComps (join (clean dest) (clean e.name)) := by
    intro x hx heq
    obtain ⟨ex, hex, hxn⟩ := hnews x (List.mem_reverse.mp hx)
    exact hcov ⟨_, touched_name hex, by rw [← hxn, heq]; exact List.prefix_refl _⟩
  obtain ⟨n', hi', hen', hmt'⟩ := dirTimes_sets _ (clean dest) _ i n3 ((congrArg Inode.kind hen3).trans hfin.1)
    d1.reverse news.reverse { e' with name := clean e.name } w3 hw3
    (fun x hx => hd3ok x (List.mem_reverse.mp (hrev ▸ hx))) rfl hav hl3 hi3 hok
  obtain ⟨hk', hp', hu', hg'⟩ := eraseM_fields (hen'.trans hen3)
  obtain ⟨u, g, rfl⟩ := remapE_eq o e e' hrem
  refine ⟨_, i, n', hrem, ?_, hi', hk'.trans hfin.1, hp'.trans hfin.2.1, hmt', fun hno => ?_⟩
  · rw [KeepsNames.run _ _ (keeps_dirTimes (clean dest) _)]
    exact hl3
  · rw [hu', hg']
    exact hfin.2.2.2 hno

/-! ### non-vacuity: a directory entry followed by an entry beneath it -/

def exDirEntry : Entry := { name := b!"d/", typ := .dir, mode := 0o711, mtime := 1000 }
def exChild : Entry := { name := b!"d/x", typ := .reg, mode := 0o644, mtime := 2000, body := b!"hi", size := 2 }

theorem exDir_ok : ((untarP b!"/w/dest" {} ([] ++ exDirEntry :: [exChild])).run { fs := exFS2 }).1 = .ok := by decide +kernel

/-- creating `d/x` touches `d`'s time; at the end `d` has the time and mode of its own entry all the same -/
example : ∃ i n, ((untarP b!"/w/dest" {} ([] ++ exDirEntry :: [exChild])).run { fs := exFS2 }).2.fs.lookup [b!"w", b!"dest", b!"d"] = some i ∧
    ((untarP b!"/w/dest" {} ([] ++ exDirEntry :: [exChild])).run { fs := exFS2 }).2.fs.inode i = some n ∧
    n.kind = .dir ∧ n.perm = 0o711 ∧ n.mtime = some 1000 := by
  have hP : pathComps (join (clean b!"/w/dest") (clean exDirEntry.name)) = [b!"w", b!"dest", b!"d"] := by decide
  obtain ⟨e', i, n, _, hl, hi, hk, hpm, hmt, _⟩ := untar_dir_last_wins b!"/w/dest" {} [] [exChild] exDirEntry { fs := exFS2 }
    (by decide) rfl (by intro x hx; simp [exDirEntry, exChild] at hx; rcases hx with rfl | rfl <;> simp)
    exFS2_LW rfl (by decide) (by rw [hP]; decide)
    (by decide)
    exDir_ok
  rw [hP] at hl
  exact ⟨i, n, hl, hi, hk, by rw [hpm]; decide, by rw [hmt]; decide⟩

end GA.C05
