import GA.Props.C03d
import GA.Props.C06g
/-
  C04, additions and modifications across the export → apply boundary: **any set of directories and regular files
  whose headers `ExportChanges` builds (the packer's `buildHeader`), applied as a layer, is what the destination
  holds afterwards** — each file's content, and for files and directories alike the twelve mode bits, owner,
  group and modification second — for any number of entries in the exporter's order (a directory before what lies
  beneath it), into any symlink-free tree, whatever it held at those paths before.  The layer-side twin of
  `C03.tree_roundtrip`: `buildHeader` composed with `C06.applyLayer_success_all_present`.
-/
namespace GA.C04
open GA GA.C03

theorem touchedOf_plain (dest : Str) (e : Entry) (hl : e.typ ≠ .link)
    (hmeta : hasPrefix (clean e.name) whMetaPrefix = false)
    (hnwh : hasPrefix (base (join dest (clean e.name))) whPrefix = false) :
    touchedOf dest e = [pathComps (join dest (clean e.name))] := by
  have hopq : base (join dest (clean e.name)) ≠ whOpaqueDir := by
    intro h
    rw [h] at hnwh
    exact absurd hnwh (by decide)
  unfold touchedOf
  simp only [hl, if_false, hmeta, Bool.false_and, Bool.false_eq_true, hopq, hnwh, List.append_nil]

theorem touchedL_plain (dest : Str) (fs : List FileDesc)
    (h : ∀ f ∈ fs, hasPrefix (clean f.entry.name) whMetaPrefix = false ∧
      hasPrefix (base (join (clean dest) (clean f.entry.name))) whPrefix = false) :
    touchedL (clean dest) (fs.map FileDesc.entry) = pathComps (join (clean dest) tmpName) :: fs.map (FileDesc.path dest) := by
  unfold touchedL
  congr 1
  induction fs with
  | nil => rfl
  | cons f fs ih =>
    obtain ⟨hm, hw⟩ := h f (by simp)
    rw [List.map_cons, List.flatMap_cons, ih (fun x hx => h x (by simp [hx])),
      touchedOf_plain _ _ (entry_typ_of_kind f ▸ C09.typOfKind_ne_link _) hm hw]
    rfl

theorem layer_tree_roundtrip (dest : Str) (fs : List FileDesc) (um : Nat) (w : World)
    (habs : isAbs dest = true) (hw : LW (pathComps (clean dest)) w)
    (hnode : ∀ f ∈ fs, (f.st.kind = .reg ∨ f.st.kind = .dir) ∧ f.st.perm < 4096 ∧
      (f.st.kind = .reg → f.st.size = f.data.length) ∧ ∃ t, f.st.mtime = some t ∧ 0 ≤ t ∧ t ≤ 9223372036)
    -- none of the names is reserved or a whiteout, none is the destination or the staging directory (or above it)
    (hplain : ∀ f ∈ fs, hasPrefix (clean f.entry.name) whMetaPrefix = false ∧
      hasPrefix (base (join (clean dest) (clean f.entry.name))) whPrefix = false ∧
      f.path dest ≠ pathComps (clean dest) ∧
      ¬ pathComps (join (clean dest) tmpName) <+: f.path dest ∧ ¬ f.path dest <+: pathComps (join (clean dest) tmpName))
    (hord : fs.Pairwise (fun a b => ¬ b.path dest <+: a.path dest ∧ (a.st.kind = .reg → ¬ a.path dest <+: b.path dest)))
    (hok : ((applyLayerP dest {} (fs.map FileDesc.entry) um).run w).1.1 = .ok) :
    ∀ f ∈ fs, ∃ i n, ((applyLayerP dest {} (fs.map FileDesc.entry) um).run w).2.fs.lookup (f.path dest) = some i ∧
      ((applyLayerP dest {} (fs.map FileDesc.entry) um).run w).2.fs.inode i = some n ∧
      n.kind = f.st.kind ∧ (f.st.kind = .reg → n.data = f.data) ∧ n.perm = f.st.perm ∧ n.uid = f.st.uid ∧
      n.gid = f.st.gid ∧ n.mtime = f.st.mtime := by
  intro f hf
  obtain ⟨pre, post, hsplit, hes, hpair⟩ := C03.entries_split hf hord
  have hkinds : ∀ x ∈ fs, x.st.kind = .reg ∨ x.st.kind = .dir := fun x hx => (hnode x hx).1
  have hsym : ∀ x ∈ fs.map FileDesc.entry, x.typ ≠ .sym := by
    intro x hx
    obtain ⟨g, hg, rfl⟩ := List.mem_map.mp hx
    rw [entry_typ_of_kind]
    rcases hkinds g hg with h | h <;> simp [h, typOfKind]
  have hpostT : touchedL (clean dest) (post.map FileDesc.entry) =
      pathComps (join (clean dest) tmpName) :: post.map (FileDesc.path dest) :=
    touchedL_plain dest post (fun x hx => by
      have hx' : x ∈ fs := by rw [hsplit]; simp [hx]
      exact ⟨(hplain x hx').1, (hplain x hx').2.1⟩)
  obtain ⟨hmeta, hnwh, hself, htmp1, htmp2⟩ := hplain f hf
  obtain ⟨hk, hperm, hsz, t, hmtime, ht0, ht1⟩ := hnode f hf
  have hfinal : C06.FinalL dest f.entry (post.map FileDesc.entry) := by
    unfold C06.FinalL
    rw [hpostT]
    refine ⟨fun ⟨t, ht, hpre⟩ => ?_, fun hnd ⟨t, ht, hpre⟩ => ?_⟩
    · rcases List.mem_cons.mp ht with rfl | ht
      · exact htmp1 hpre
      · obtain ⟨g, hg, rfl⟩ := List.mem_map.mp ht
        exact (hpair g hg).1 hpre
    · have hreg : f.st.kind = .reg := hk.resolve_right fun hd => hnd (by rw [entry_typ_of_kind, hd]; rfl)
      rcases List.mem_cons.mp ht with rfl | ht
      · exact htmp2 hpre
      · obtain ⟨g, hg, rfl⟩ := List.mem_map.mp ht
        exact (hpair g hg).2 hreg hpre
  obtain ⟨e', i, n, hrem, hl, hi, hpm, hmt, hown, hkd⟩ :=
    (C06.applyLayer_success_all_present dest {} _ um w habs rfl hsym hw hok _ _ f.entry hes).2
      ⟨by rw [entry_typ_of_kind]; rcases hk with h | h <;> simp [h, typOfKind], hmeta, hnwh, hself⟩ hfinal
  rw [remapE_default] at hrem
  cases hrem
  refine ⟨i, n, hl, hi, ?_, ?_, ?_⟩
  · rw [entry_typ_of_kind] at hkd
    rcases hk with h | h <;> rw [h] at hkd ⊢
    · exact hkd.1
    · exact hkd
  · intro hreg
    rw [entry_typ_of_kind, hreg] at hkd
    exact hkd.2
  · rw [hmtime]
    exact header_fields f.name f.st f.cap t hperm hmtime ht0 ht1 n hpm hmt (hown rfl)

/-- non-vacuity: the tree of `C03.exTree` applied as a layer -/
theorem exTree_layer_ok : ((applyLayerP b!"/w/dest" {} (exTree.map FileDesc.entry) 0o022).run { fs := C05.exFS2 }).1.1 = .ok := by
  decide +kernel

example : ∃ i n, ((applyLayerP b!"/w/dest" {} (exTree.map FileDesc.entry) 0o022).run { fs := C05.exFS2 }).2.fs.lookup
      [b!"w", b!"dest", b!"srv"] = some i ∧
    ((applyLayerP b!"/w/dest" {} (exTree.map FileDesc.entry) 0o022).run { fs := C05.exFS2 }).2.fs.inode i = some n ∧
    n.kind = .dir ∧ n.perm = 0o2775 ∧ n.mtime = some 500 := by
  have hp : (exTree[0]).path b!"/w/dest" = [b!"w", b!"dest", b!"srv"] := by decide
  obtain ⟨i, n, hl, hi, hk, _, hpm, _, _, hmt⟩ := layer_tree_roundtrip b!"/w/dest" exTree 0o022 { fs := C05.exFS2 } (by decide) C05.exFS2_LW
    (by
      intro f hf; simp [exTree] at hf
      rcases hf with rfl | rfl
      · exact ⟨Or.inr rfl, by decide, (fun h => by cases h), 500, rfl, by decide, by decide⟩
      · exact ⟨Or.inl rfl, by decide, (fun _ => rfl), 1000, rfl, by decide, by decide⟩)
    (by intro f hf; simp [exTree] at hf; rcases hf with rfl | rfl <;> exact ⟨by decide, by decide, by decide, by decide, by decide⟩)
    (by simp only [exTree, List.pairwise_cons]; refine ⟨fun b hb => ?_, ?_⟩
        · simp at hb; subst hb; exact ⟨by decide, (fun h => by cases h)⟩
        · simp)
    exTree_layer_ok (exTree[0]) (List.getElem_mem _)
  rw [hp] at hl
  exact ⟨i, n, hl, hi, hk, hpm, hmt⟩

end GA.C04
