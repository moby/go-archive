import GA.M.Pipe
import GA.Generated.Facts
/-
  C17 — every returned stream terminates and cleans up after itself (protocol logic).
  Partial: real blocking, goroutine and process lifetimes are the runtime's; the `streams` stream
  observes them (goroutine, fd and child census after every stop point).
-/
namespace GA.C17
open GA.Pipe

/-- **the producer always closes its end**: whatever the consumer does, after `Do` the pipe is not
    open any more, so a draining reader gets end-of-stream or an error, never an endless wait -/
theorem producer_always_closes (c : Consumer) (items : List Item) : (produce c items).pipe ≠ .open := by
  fun_cases produce c items
  case case1 => nofun
  case case2 hp => exact hp

/-- **a write after the consumer closed returns at once** (with the consumer's error) -/
theorem write_after_close_nonblocking (e : Nat) : write (.readerClosed e) = .closed e := rfl

theorem consume_closed (c : Consumer) (s : PState) (e : Nat) (h : s.pipe = .readerClosed e) :
    (consume c s).pipe = .readerClosed e := by
  unfold consume; cases c <;> simp [h]

theorem attempt_closed (c : Consumer) (s : PState) (e : Nat) (b : Bool) (h : s.pipe = .readerClosed e) :
    attempt c s b = ({ s with steps := s.steps + 1, stepsAfterClose := s.stepsAfterClose + 1 }, .closed e) := by
  have hc : consume c s = s := by unfold consume; cases c <;> simp [h]
  simp [attempt, hc, h, write]

/-- **after the consumer closed with io.ErrClosedPipe the walk stops at the next write**: exactly
    one more step, no file content is read -/
theorem walk_stops_after_close (c : Consumer) (items : List Item) (s : PState) (h : s.pipe = .readerClosed 0)
    (hne : items ≠ []) :
    (walk c items s).stepsAfterClose = s.stepsAfterClose + 1 ∧ (walk c items s).bodyReads = s.bodyReads := by
  cases items with
  | nil => exact absurd rfl hne
  | cons it rest =>
    rw [walk, attempt_closed c s 0 false h]
    exact ⟨rfl, rfl⟩

/-- **after the consumer closed with another error the walk still terminates**: at most one failed
    header write per remaining file, and no file content is read any more -/
theorem walk_after_error_close (c : Consumer) (e : Nat) : ∀ (items : List Item) (s : PState), s.pipe = .readerClosed e →
    (walk c items s).stepsAfterClose ≤ s.stepsAfterClose + items.length ∧
    (walk c items s).bodyReads = s.bodyReads := by
  intro items
  induction items with
  | nil => intro s _; simp [walk]
  | cons it rest ih =>
    intro s h
    rw [walk, attempt_closed c s e false h]
    simp only
    split
    · exact ⟨by simp only [List.length_cons]; omega, rfl⟩
    · have := ih { s with steps := s.steps + 1, stepsAfterClose := s.stepsAfterClose + 1 } h
      simp only [List.length_cons] at this ⊢
      exact ⟨by omega, this.2⟩

/-- obligations on the regenerated structure of the producers: the model's "always closes" is what
    the code does on every exit path -/
theorem producers_close_on_every_path :
    Facts.doClosesAll = true ∧ Facts.exportClosesAlways = true ∧ Facts.rebaseClosesAlways = true ∧
    Facts.replaceClosesAlways = true ∧ Facts.cmdStreamClosesAlways = true ∧ Facts.copyFileJoinsErrors = true := by decide

/-- non-vacuity: a consumer that stops after two writes; three files of two chunks each -/
example : (produce (.stopAfter 2 0) [⟨2⟩, ⟨2⟩, ⟨2⟩]).pipe = .readerClosed 0 ∧
          (produce (.stopAfter 2 0) [⟨2⟩, ⟨2⟩, ⟨2⟩]).stepsAfterClose = 1 ∧
          (produce .drain [⟨2⟩, ⟨2⟩, ⟨2⟩]).pipe = .writerClosed none ∧
          (produce .drain [⟨2⟩, ⟨2⟩, ⟨2⟩]).written = 9 := by decide

end GA.C17
