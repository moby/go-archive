import GA.M.IDMap
import GA.Proofs.ListLemmas
/-
  C12 — ownership mapping and override are applied consistently (arithmetic core).
  The mapping functions are `moby/sys/user`'s (outside /repo): modelled from its source and tied
  by the idmap and extract/pack correspondence streams.
-/
namespace GA.C12
open GA

def inHost (r : IDRange) (h : Nat) : Prop := r.hid ≤ h ∧ h < r.hid + r.count
def inCont (r : IDRange) (c : Nat) : Prop := r.cid ≤ c ∧ c < r.cid + r.count

/-- container ranges do not overlap -/
def DisjointC (m : List IDRange) : Prop :=
  m.Pairwise (fun a b => ∀ c, ¬ (inCont a c ∧ inCont b c))

theorem pairwise_unique {m : List IDRange} (hd : DisjointC m) {a b : IDRange} (ha : a ∈ m) (hb : b ∈ m)
    {c : Nat} (hca : inCont a c) (hcb : inCont b c) : a = b := by
  induction m with
  | nil => simp at ha
  | cons x xs ih =>
    rw [DisjointC, List.pairwise_cons] at hd
    simp at ha hb
    rcases ha with rfl | ha <;> rcases hb with rfl | hb
    · rfl
    · exact absurd ⟨hca, hcb⟩ (hd.1 b hb c)
    · exact absurd ⟨hcb, hca⟩ (hd.1 a ha c)
    · exact ih hd.2 ha hb

/-- **host → container → host is the identity on every id inside the mapped ranges** -/
theorem raw_inverse (m : List IDRange) (hd : DisjointC m) (h : Nat) (c : Nat)
    (hc : toContainerRaw m h = some c) : toHostRaw m c = some h := by
  revert hc
  fun_cases toContainerRaw m h
  case case1 hm => exact fun hc => by rw [toHostRaw, if_pos hm, Option.some.inj hc]
  case case3 => nofun
  case case2 hm r hr =>
    intro hc
    cases hc
    have hrm := List.mem_of_find?_eq_some hr
    have hrp := List.find?_some hr
    simp at hrp
    have hin : inCont r (r.cid + (h - r.hid)) := ⟨Nat.le_add_right _ _, by omega⟩
    -- the ranges being disjoint, `r` is the one range that holds the container id
    have : m.find? (fun r' => decide (r'.cid ≤ r.cid + (h - r.hid) ∧ r.cid + (h - r.hid) < r'.cid + r'.count)) = some r := by
      apply find_unique _ m r hrm
      · simp; have := hin.2; omega
      · intro y hy hp
        simp at hp
        exact pairwise_unique hd hy hrm hp hin
    rw [toHostRaw, if_neg hm, this]
    simp; omega

/-- an id outside every host range is reported, never replaced -/
theorem unmapped_is_error (m : List IDRange) (hm : m ≠ []) (h : Nat)
    (hout : ∀ r ∈ m, ¬ inHost r h) : toContainerRaw m h = none := by
  fun_cases toContainerRaw m h
  case case1 hm' => exact absurd hm' hm
  case case2 r hr => exact absurd (by simpa [inHost] using List.find?_some hr) (hout r (List.mem_of_find?_eq_some hr))
  case case3 => rfl

theorem unmapped_is_error_toHost (m : List IDRange) (hm : m ≠ []) (c : Nat)
    (hout : ∀ r ∈ m, ¬ inCont r c) : toHostRaw m c = none := by
  fun_cases toHostRaw m c
  case case1 hm' => exact absurd hm' hm
  case case2 r hr => exact absurd (by simpa [inCont] using List.find?_some hr) (hout r (List.mem_of_find?_eq_some hr))
  case case3 => rfl

/-- the pair-level round trip holds whenever the container id is not the mapped root's *host* id -/
theorem toHost_roundtrip_partial (o : Opts) (hu : DisjointC o.uidMaps) (hg : DisjointC o.gidMaps)
    (uid gid cu cg : Nat) (hc : toContainerPair o uid gid = some (cu, cg))
    (h1 : (rootPair o).map (·.1) ≠ some cu) (h2 : (rootPair o).map (·.2) ≠ some cg) :
    toHostPair o cu cg = some (uid, gid) := by
  unfold toContainerPair at hc
  split at hc
  · rename_i u g hcu hcg
    cases hc
    unfold toHostPair
    simp only [h1, h2, if_false]
    rw [raw_inverse _ hu uid cu hcu]
    simp only
    rw [raw_inverse _ hg gid cg hcg]
    rfl
  · cases hc

/-- D5 (known finding, in the dependency): with {0→1000 ×1, 1→100000 ×65536} host uid 100999 archives
    as container uid 1000, which `ToHost` leaves alone because it equals the mapped root's host id -/
theorem toHost_roundtrip_counterexample :
    let o : Opts := { uidMaps := [⟨0, 1000, 1⟩, ⟨1, 100000, 65536⟩], gidMaps := [⟨0, 1000, 1⟩, ⟨1, 100000, 65536⟩] }
    toContainerPair o 100999 100999 = some (1000, 1000) ∧ toHostPair o 1000 1000 = some (1000, 1000) := by decide

/-- the override always wins on extraction: the ids handed to lchown ignore header and mapping -/
theorem rootPair_identity : rootPair {} = some (0, 0) := by decide

/-- non-vacuity of `DisjointC` -/
example : DisjointC [⟨0, 100000, 65536⟩] := by simp [DisjointC]

end GA.C12
