import GA.M.Changes
import GA.Generated.Facts
/-
  C10 — directory diff equals the reference diff (the parsing and merging core).
-/
namespace GA.C10
open GA GA.Changes

theorem leNat_leBytes : ∀ (k n : Nat), leNat (leBytes k n) = n % 256 ^ k
  | 0, n => by simp [leBytes, leNat, Nat.mod_one]
  | k+1, n => by
    simp only [leBytes, leNat, leNat_leBytes k (n / 256)]
    have h1 : (UInt8.ofNat (n % 256)).toNat = n % 256 := by simp
    rw [h1, Nat.pow_succ, Nat.mul_comm (256 ^ k) 256, Nat.mod_mul]

theorem leBytes_length : ∀ (k n : Nat), (leBytes k n).length = k
  | 0, _ => rfl
  | k+1, n => by simp [leBytes, leBytes_length k]

theorem encodeRec_length (ino : Nat) (name : Str) (pad : Nat) :
    (encodeRec ino name pad).length = 19 + name.length + 1 + pad := by
  simp [encodeRec, leBytes_length]; omega

/-- the three header fields read back from an encoded record followed by anything -/
theorem fields_of_encode (ino : Nat) (name : Str) (pad : Nat) (rest : List UInt8)
    (hi : ino < 256 ^ 8) (hr : 19 + name.length + 1 + pad < 256 ^ 2) (hn : (0 : UInt8) ∉ name) :
    direntIno (encodeRec ino name pad ++ rest) = ino ∧
    direntReclen (encodeRec ino name pad ++ rest) = 19 + name.length + 1 + pad ∧
    direntName (encodeRec ino name pad ++ rest) = name := by
  refine ⟨?_, ?_, ?_⟩
  · unfold direntIno encodeRec
    simp only [List.append_assoc]
    rw [List.take_left' (leBytes_length 8 ino), leNat_leBytes, Nat.mod_eq_of_lt hi]
  · unfold direntReclen encodeRec
    simp only [List.append_assoc]
    rw [← List.append_assoc (leBytes 8 ino), List.drop_left' (by simp [leBytes_length]),
      List.take_left' (leBytes_length 2 _), leNat_leBytes, Nat.mod_eq_of_lt hr]
  · unfold direntName encodeRec cstr
    simp only [List.append_assoc]
    rw [← List.append_assoc (leBytes 8 ino), ← List.append_assoc (leBytes 8 ino ++ leBytes 8 0),
      ← List.append_assoc ((leBytes 8 ino ++ leBytes 8 0) ++ leBytes 2 _),
      List.drop_left' (by simp [leBytes_length])]
    rw [List.takeWhile_append_of_pos (fun x hx => by simpa using fun e : x = 0 => hn (e ▸ hx))]
    simp

structure Rec where
  ino : Nat
  name : Str
  pad : Nat

def Rec.ok (r : Rec) : Prop := r.ino < 256 ^ 8 ∧ 19 + r.name.length + 1 + r.pad < 256 ^ 2 ∧ (0 : UInt8) ∉ r.name

def Rec.enc (r : Rec) : List UInt8 := encodeRec r.ino r.name r.pad

/-- what the directory listing should contain for these records -/
def wanted (rs : List Rec) : List (Str × Nat) :=
  (rs.filter (fun r => !(r.ino = 0 ∨ r.name = dot ∨ r.name = dotdot))).map (fun r => (r.name, r.ino))

theorem wanted_append (a b : List Rec) : wanted (a ++ b) = wanted a ++ wanted b := by
  simp [wanted, List.filter_append]

theorem parseDirent_enc (r : Rec) (hr : r.ok) (n : Nat) (rest : List UInt8) (acc : List (Str × Nat)) :
    parseDirent (n + 1) (r.enc ++ rest) acc =
      (r.enc.length + (parseDirent n rest (acc ++ wanted [r])).1, (parseDirent n rest (acc ++ wanted [r])).2) := by
  obtain ⟨h1, h2, h3⟩ := fields_of_encode r.ino r.name r.pad rest hr.1 hr.2.1 hr.2.2
  have hlen : r.enc.length = 19 + r.name.length + 1 + r.pad := encodeRec_length r.ino r.name r.pad
  have hne : r.enc ++ rest ≠ [] := fun e => by
    have := congrArg List.length e
    simp [hlen] at this
  have hrl : ¬ (19 + r.name.length + 1 + r.pad = 0 ∨ 19 + r.name.length + 1 + r.pad > (r.enc ++ rest).length) := by
    simp [hlen]
  have hacc : (if r.ino = 0 ∨ r.name = dot ∨ r.name = dotdot then acc else acc ++ [(r.name, r.ino)]) = acc ++ wanted [r] := by
    unfold wanted
    by_cases hskip : r.ino = 0 ∨ r.name = dot ∨ r.name = dotdot <;> simp [hskip, List.filter]
  rw [← hacc]
  unfold Rec.enc at *
  simp only [parseDirent, hne, if_false, h1, h2, h3, hrl, List.drop_left' hlen, hlen]

/-- **parseDirent is exact on well-formed buffers**: it consumes every byte and returns exactly
    the (name, inode) pairs of the records whose inode is non-zero and whose name is not "." or ".." -/
theorem parseDirent_exact : ∀ (rs : List Rec) (acc : List (Str × Nat)) (fuel : Nat),
    (∀ r ∈ rs, r.ok) → fuel ≥ (rs.flatMap Rec.enc).length →
    parseDirent fuel (rs.flatMap Rec.enc) acc = ((rs.flatMap Rec.enc).length, acc ++ wanted rs)
  | [], acc, fuel, _, _ => by
    cases fuel <;> simp [parseDirent, wanted]
  | r :: rs, acc, fuel, hok, hf => by
    rw [List.flatMap_cons, List.length_append] at hf ⊢
    have hpos : 0 < r.enc.length := by rw [Rec.enc, encodeRec_length]; omega
    cases fuel with
    | zero => omega
    | succ n =>
      rw [parseDirent_enc r (hok r (by simp)), parseDirent_exact rs _ n (fun x hx => hok x (by simp [hx])) (by omega),
        List.append_assoc, ← wanted_append]
      rfl

/-- **the listing does not depend on how the kernel cuts the record stream into buffers** -/
theorem readdir_chunk_independent (rs1 rs2 : List Rec) (acc : List (Str × Nat))
    (h1 : ∀ r ∈ rs1, r.ok) (h2 : ∀ r ∈ rs2, r.ok) :
    (parseDirent (rs2.flatMap Rec.enc).length (rs2.flatMap Rec.enc)
      (parseDirent (rs1.flatMap Rec.enc).length (rs1.flatMap Rec.enc) acc).2).2 =
    (parseDirent ((rs1 ++ rs2).flatMap Rec.enc).length ((rs1 ++ rs2).flatMap Rec.enc) acc).2 := by
  rw [parseDirent_exact rs1 acc _ h1 (Nat.le_refl _), parseDirent_exact rs2 _ _ h2 (Nat.le_refl _),
    parseDirent_exact (rs1 ++ rs2) acc _ (fun r hr => (List.mem_append.mp hr).elim (h1 r) (h2 r)) (Nat.le_refl _),
    wanted_append, List.append_assoc]

theorem strLt_iff : ∀ (a b : Str), strLt a b = true ↔ a < b := by
  intro a b
  fun_induction strLt a b
  case case4 h => simp [List.cons_lt_cons_iff, h]
  case case5 x _ y _ h1 h2 =>
    have : x ≠ y := fun e => h1 (e ▸ h2)
    simp [List.cons_lt_cons_iff, h1, this]
  case case6 x _ y _ h1 h2 ih =>
    -- equal first bytes: the answer is that of the tails
    have : x = y := UInt8.le_antisymm (UInt8.not_lt.mp h2) (UInt8.not_lt.mp h1)
    simp [this, ih]
  all_goals simp

theorem strLt_eq_false (a b : Str) : strLt a b = false ↔ b ≤ a := by
  rw [← List.not_lt, ← strLt_iff, Bool.not_eq_true]

theorem strLt_trichotomy : ∀ (a b : Str), strLt a b = false → strLt b a = false → a = b :=
  fun a b h1 h2 => List.le_antisymm ((strLt_eq_false b a).mp h2) ((strLt_eq_false a b).mp h1)

theorem mergeNames_sound (sd : Bool) : ∀ (fuel : Nat) (a b : List (Str × Nat)) (n : Str),
    n ∈ mergeNames sd fuel a b → n ∈ a.map (·.1) ∨ n ∈ b.map (·.1) := by
  intro fuel a b n
  have tl : ∀ {z : Str × Nat} {l : List (Str × Nat)}, n ∈ l.map (·.1) → n ∈ (z :: l).map (·.1) :=
    fun h => List.mem_cons_of_mem _ h
  fun_induction mergeNames sd fuel a b
  case case1 => nofun
  case case2 => exact Or.inr
  case case3 => exact Or.inl
  -- 4, 5: the smaller head is put out, that of the first list or that of the second
  case case4 ih =>
    exact fun h => (List.mem_cons.mp h).elim (fun e => Or.inl (e ▸ List.mem_cons_self ..)) fun h => (ih h).imp_left tl
  case case5 ih =>
    exact fun h => (List.mem_cons.mp h).elim (fun e => Or.inr (e ▸ List.mem_cons_self ..)) fun h => (ih h).imp_right tl
  -- 6, 7: both heads have the same name; it is put out once, or not at all (same inode on the same device)
  case case6 ih =>
    exact fun h => (List.mem_cons.mp h).elim (fun e => Or.inl (e ▸ List.mem_cons_self ..)) fun h =>
      (ih h).imp tl tl
  case case7 ih => exact fun h => (ih h).imp tl tl

theorem keeps_cons {z w : Str × Nat} {l : List (Str × Nat)} {out : List Str} {P : Prop} (h : z ∈ w :: l)
    (ht : z ∈ l → z.1 ∈ out ∨ P) : z.1 ∈ w.1 :: out ∨ P :=
  (List.mem_cons.mp h).elim (fun e => Or.inl (e ▸ List.mem_cons_self ..)) (fun h => (ht h).imp (List.mem_cons_of_mem _) id)

theorem mergeNames_keeps (sd : Bool) (z : Str × Nat) : ∀ (fuel : Nat) (a b : List (Str × Nat)),
    fuel ≥ a.length + b.length + 1 →
    (z ∈ a → z.1 ∈ mergeNames sd fuel a b ∨ (sd = true ∧ z ∈ b)) ∧
    (z ∈ b → z.1 ∈ mergeNames sd fuel a b ∨ (sd = true ∧ z ∈ a)) := by
  intro fuel a b
  have tl : ∀ {α} {w v : α} {l : List α}, v ∈ l → v ∈ w :: l := fun h => List.mem_cons_of_mem _ h
  have eq : ∀ {x y : Str × Nat}, ¬strLt x.1 y.1 = true → ¬strLt y.1 x.1 = true → x.1 = y.1 := fun h1 h2 =>
    strLt_trichotomy _ _ (Bool.of_not_eq_true h1) (Bool.of_not_eq_true h2)
  fun_induction mergeNames sd fuel a b
  case case1 => intro hf; omega
  case case2 => exact fun _ => ⟨nofun, fun h => Or.inl (List.mem_map_of_mem h)⟩
  case case3 => exact fun _ => ⟨fun h => Or.inl (List.mem_map_of_mem h), nofun⟩
  -- in the other four the fuel is enough for the lists that remain
  all_goals
    rename_i ih
    intro hf
    replace ih := ih (by simp only [List.length_cons] at hf ⊢; omega)
  -- 4, 5: the smaller head is put out
  case case4 => exact ⟨fun h => keeps_cons h ih.1, fun h => (ih.2 h).imp tl (And.imp_right tl)⟩
  case case5 => exact ⟨fun h => (ih.1 h).imp tl (And.imp_right tl), fun h => keeps_cons h ih.2⟩
  -- 6: the two heads have the same name and one copy is put out
  case case6 hlt hgt _ =>
    exact ⟨fun h => keeps_cons h fun h => (ih.1 h).imp_right (And.imp_right tl),
      fun h => eq hlt hgt ▸ keeps_cons h fun h => (ih.2 h).imp_right (And.imp_right tl)⟩
  -- 7: they are the same pair on the same device and neither is put out; `z` may be that pair
  case case7 x _ y _ hlt hgt hpr =>
    have hpr : x.2 = y.2 ∧ sd = true := by simpa using hpr
    have e : x = y := Prod.ext (eq hlt hgt) hpr.1
    exact ⟨fun h => (List.mem_cons.mp h).elim (fun e' => Or.inr ⟨hpr.2, e' ▸ e ▸ List.mem_cons_self ..⟩)
        fun h => (ih.1 h).imp_right (And.imp_right tl),
      fun h => (List.mem_cons.mp h).elim (fun e' => Or.inr ⟨hpr.2, e' ▸ e ▸ List.mem_cons_self ..⟩)
        fun h => (ih.2 h).imp_right (And.imp_right tl)⟩

/-- **nothing is lost by the merge** except a name that both sides hold with the same inode on the
    same device (the pruning the walker is designed to do) -/
theorem mergeNames_complete (sd : Bool) : ∀ (fuel : Nat) (a b : List (Str × Nat)), fuel ≥ a.length + b.length + 1 →
    ∀ n, (n ∈ a.map (·.1) ∨ n ∈ b.map (·.1)) →
      n ∈ mergeNames sd fuel a b ∨ (sd = true ∧ ∃ i, (n, i) ∈ a ∧ (n, i) ∈ b) := by
  intro fuel a b hf n hn
  rcases hn with hn | hn <;> obtain ⟨z, hz, rfl⟩ := List.mem_map.mp hn
  · exact ((mergeNames_keeps sd z fuel a b hf).1 hz).imp_right (fun h => ⟨h.1, z.2, hz, h.2⟩)
  · exact ((mergeNames_keeps sd z fuel a b hf).2 hz).imp_right (fun h => ⟨h.1, z.2, h.2, hz⟩)

/-- obligation on the regenerated fact: the fields `statDifferent` compares -/
theorem statDifferent_fields : Facts.statDifferentFields = ["Gid", "ModTime", "Mode", "Rdev", "Size", "Uid"] := rfl

end GA.C10
