import GA.Proofs.UnpackLast
/-
  C05, hard links in whole archives: **hard-link entries share an inode with their target**.  For every archive
  `pre ++ e :: post` without symbolic-link entries (default whiteout format, symlink-free prior world): if the
  plain `Untar` reports success, `e` is a hard-link entry that is not excluded and does not name the destination
  itself, and no later entry names the link's path or the link's source, or a path above either, then at the
  end the two paths name one and the same inode.
-/
namespace GA.C05
open GA

theorem untar_link_shares (dest : Str) (o : Opts) (pre post : List Entry) (e : Entry) (w : World)
    (habs : isAbs dest = true) (hov : o.overlay = false)
    (hsym : ∀ x ∈ pre ++ e :: post, x.typ ≠ .sym)
    (hw : LW (pathComps (clean dest)) w)
    (hlink : e.typ = .link)
    (hnx : o.excludes.any (fun x => hasPrefix (clean e.name) x) = false)
    (hne : pathComps (join (clean dest) (clean e.name)) ≠ pathComps (clean dest))
    (hcov : ¬ Cov (touched (clean dest) post) (pathComps (join (clean dest) (clean e.name))))
    (hcovS : ¬ Cov (touched (clean dest) post) (pathComps (join (clean dest) e.linkname)))
    (hok : ((untarP dest o (pre ++ e :: post)).run w).1 = .ok) :
    ∃ i,
      ((untarP dest o (pre ++ e :: post)).run w).2.fs.lookup (pathComps (join (clean dest) (clean e.name))) = some i ∧
      ((untarP dest o (pre ++ e :: post)).run w).2.fs.lookup (pathComps (join (clean dest) e.linkname)) = some i := by
  have hd : CleanAbs (clean dest) := clean_cleanAbs dest habs
  obtain ⟨d1, w1, d2, w2, d3, w3, hw1, _, hit, _, _, _, _, hF, hfin⟩ :=
    loopRun_split _ (clean dest) o hd rfl hov pre post e [] w hsym hw (fun _ h => by cases h) hok
  obtain ⟨_, _, i, hl2, hs2⟩ := iter_link_post _ (clean dest) o hd rfl hov e d1 w1 hw1 hlink hnx hne d2 w2 hit
  unfold untarP unpackP
  rw [hfin]
  exact ⟨i, by rw [KeepsNames.run _ _ (keeps_dirTimes (clean dest) d3.reverse)]; exact hF.names_keep _ i hl2 hcov,
    by rw [KeepsNames.run _ _ (keeps_dirTimes (clean dest) d3.reverse)]; exact hF.names_keep _ i hs2 hcovS⟩

end GA.C05
