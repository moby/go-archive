import GA.Props.C04
import GA.Props.C10
import GA.M.Export
/-
  C04/C09: the order `ExportChanges` sorts the change list into.  `sortChanges` (insertion by the byte order
  of the path, `changesByPath.Less`) returns a permutation of its input in which no entry is preceded by an
  entry for a path beneath it — a directory's entry, or the whiteout that removes it, comes before
  everything inside.  This is the order hypothesis of `TreeDiff.apply_changes_step`
  (GA/Props/C04b.lean).
-/
namespace GA.C04
open GA

theorem mem_insertChange (c : Change) : ∀ (l : List Change) (x : Change), x ∈ insertChange c l ↔ x = c ∨ x ∈ l := by
  intro l x
  fun_induction insertChange c l
  case case1 => simp
  case case2 => simp
  case case3 ih => simp only [List.mem_cons, ih, or_left_comm]

/-- **the export order is a rearrangement of the change list** -/
theorem mem_sortChanges : ∀ (l : List Change) (x : Change), x ∈ sortChanges l ↔ x ∈ l
  | [], x => by simp [sortChanges]
  | c :: cs, x => by
    have ih := mem_sortChanges cs x
    simp only [sortChanges, List.foldr_cons] at ih ⊢
    rw [mem_insertChange, ih]
    simp

theorem sorted_insertChange (c : Change) : ∀ (l : List Change), l.Pairwise (fun x y => x.path ≤ y.path) →
    (insertChange c l).Pairwise (fun x y => x.path ≤ y.path) := by
  intro l
  fun_induction insertChange c l
  case case1 => exact fun _ => List.pairwise_singleton _ _
  case case2 d ds hlt =>
    -- `c` goes in front: below the head, hence below all
    intro h
    have hcd : c.path ≤ d.path := List.le_of_lt ((C10.strLt_iff _ _).mp hlt)
    refine List.pairwise_cons.mpr ⟨fun x hx => ?_, h⟩
    rcases List.mem_cons.mp hx with rfl | hx
    · exact hcd
    · exact List.le_trans hcd ((List.pairwise_cons.mp h).1 x hx)
  case case3 d ds hnlt ih =>
    intro h
    have hd := List.pairwise_cons.mp h
    refine List.pairwise_cons.mpr ⟨fun x hx => ?_, ih hd.2⟩
    rcases (mem_insertChange c ds x).mp hx with rfl | hx
    · exact (C10.strLt_eq_false _ _).mp ((Bool.not_eq_true _).mp hnlt)
    · exact hd.1 x hx

theorem sorted_sortChanges : ∀ (l : List Change), (sortChanges l).Pairwise (fun x y => x.path ≤ y.path)
  | [] => by simp [sortChanges]
  | c :: cs => sorted_insertChange c _ (sorted_sortChanges cs)

/-- **in the export order nothing precedes an entry for a path above it**: a directory's entry, or the whiteout
    that removes it, is written before every entry beneath -/
theorem export_order_parent_first (l : List Change) :
    (sortChanges l).Pairwise (fun x y => ¬ ∃ rest, x.path = y.path ++ 47 :: rest) :=
  (sorted_sortChanges l).imp (fun hle ⟨rest, hx⟩ =>
    List.not_lt.mpr hle ((C10.strLt_iff _ _).mp (hx ▸ parent_sorts_first _ rest)))

end GA.C04
