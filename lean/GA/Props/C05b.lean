import GA.Proofs.EntryLink
/-
  C05 / C03 — what one regular-file entry leaves behind.  The statement is about the real sequence of
  system calls `createTarFile` issues (open+write, lchown, lsetxattr…, chmod, utimes) run on the kernel
  model, in a world without symbolic links: whatever the prior tree, the umask, the set-gid bit of the
  parent directory (which decides the group a new file gets) and the attribute list, and whichever of
  the attribute calls are refused with a tolerated error — if the call reports success, the path holds
  exactly the entry.
-/
namespace GA.C05
open GA

/-- **a regular-file entry is reproduced exactly**: content, permission bits (all twelve, including
    set-uid/set-gid/sticky — the chmod comes after the chown that clears them), clamped modification
    time, and owner (header's, or `ChownOpts`) unless `NoLchown` -/
theorem reg_entry_exact (dp : Path) (path xd : Str) (e : Entry) (o : Opts) (w : World)
    (hw : LW dp w) (hp : LexArg dp path) (hreg : e.typ = .reg) (hnew : w.fs.lookup (pathComps path) = none)
    (hok : ((createTarFileP path xd e o).run w).1 = .ok) :
    ∃ i n, ((createTarFileP path xd e o).run w).2.fs.lookup (pathComps path) = some i ∧
      ((createTarFileP path xd e o).run w).2.fs.inode i = some n ∧
      n.kind = .reg ∧ n.data = e.body ∧ n.perm = e.mode &&& 0o7777 ∧ n.mtime = some (boundTime e.mtime) ∧
      (o.noLchown = false → (n.uid, n.gid) = o.chownOpts.getD (e.uid, e.gid)) ∧ e.size ≤ e.body.length := by
  have h := createTarFile_reg_exact dp path xd e o hp hreg w ⟨hw, hnew⟩ hok
  obtain ⟨⟨_, i, n, hl, hi, hk, hd, hpm, hmt, hown⟩, hsz⟩ := h
  exact ⟨i, n, hl, hi, hk, hd, hpm, hmt, hown, hsz⟩

/-- a set-uid, set-gid, sticky mode survives although the ownership change in between clears the
    set-id bits (instance of the theorem above, stated for the reader) -/
theorem reg_entry_keeps_setid (dp : Path) (path xd : Str) (e : Entry) (o : Opts) (w : World)
    (hw : LW dp w) (hp : LexArg dp path) (hreg : e.typ = .reg) (hnew : w.fs.lookup (pathComps path) = none)
    (hmode : e.mode = 0o7755) (hok : ((createTarFileP path xd e o).run w).1 = .ok) :
    ∃ i n, ((createTarFileP path xd e o).run w).2.fs.lookup (pathComps path) = some i ∧
      ((createTarFileP path xd e o).run w).2.fs.inode i = some n ∧ n.perm = 0o7755 := by
  obtain ⟨i, n, hl, hi, _, _, hpm, _⟩ := reg_entry_exact dp path xd e o w hw hp hreg hnew hok
  exact ⟨i, n, hl, hi, by rw [hpm, hmode]; decide⟩

/-- **a directory entry merges onto an existing directory**: if the path names a directory, then after a
    successful `createTarFile` for a directory entry every path resolves to the same inode as before
    (nothing beneath or beside it was created or removed), every other inode is unchanged, and the
    directory itself has the entry's permission bits, clamped time and owner -/
theorem dir_entry_merges (dp : Path) (path xd : Str) (e : Entry) (o : Opts) (w : World)
    (hw : LW dp w) (hp : LexArg dp path) (hdir : e.typ = .dir) (i : Ino) (n0 : Inode)
    (hl : w.fs.lookup (pathComps path) = some i) (hi : w.fs.inode i = some n0) (hk : n0.kind = .dir)
    (hok : ((createTarFileP path xd e o).run w).1 = .ok) :
    (∀ p, ((createTarFileP path xd e o).run w).2.fs.lookup p = w.fs.lookup p) ∧
    (∀ j, j ≠ i → ((createTarFileP path xd e o).run w).2.fs.inode j = w.fs.inode j) ∧
    ∃ n, ((createTarFileP path xd e o).run w).2.fs.inode i = some n ∧ n.kind = .dir ∧
      n.perm = e.mode &&& 0o7777 ∧ n.mtime = some (boundTime e.mtime) ∧
      (o.noLchown = false → (n.uid, n.gid) = o.chownOpts.getD (e.uid, e.gid)) := by
  have h := createTarFile_dir_merges dp path xd e o hp hdir i w w
    ⟨hw, hl, ⟨n0, hi, hk⟩, Frame.refl i w⟩ hok
  obtain ⟨_, _, ⟨n, hn, hf⟩, hfr⟩ := h
  exact ⟨hfr.1, hfr.2, n, hn, hf.1, hf.2.1, hf.2.2.1, hf.2.2.2⟩

/-- **hard-link entries share an inode with their target**: after a successful `createTarFile` for a
    `TypeLink` entry the entry's path and `Join(destination, Linkname)` resolve to one and the same inode -/
theorem link_entry_shares_inode (dp : Path) (path xd : Str) (e : Entry) (o : Opts) (w : World)
    (hw : LW dp w) (hp : LexArg dp path) (hxd : CleanAbs xd) (hdp : pathComps xd = dp) (hlink : e.typ = .link)
    (hok : ((createTarFileP path xd e o).run w).1 = .ok) :
    ∃ i, ((createTarFileP path xd e o).run w).2.fs.lookup (pathComps path) = some i ∧
      ((createTarFileP path xd e o).run w).2.fs.lookup (pathComps (join xd e.linkname)) = some i := by
  obtain ⟨_, i, h1, h2⟩ := createTarFile_link_shares dp path xd e o hp hxd hdp hlink w hw hok
  exact ⟨i, h1, h2⟩

/-- **a device entry is reproduced exactly** (outside a user namespace): node type, device number, all
    twelve permission bits, clamped time and owner -/
theorem dev_entry_exact (dp : Path) (path xd : Str) (e : Entry) (o : Opts) (w : World)
    (hw : LW dp w) (hp : LexArg dp path) (hdev : e.typ = .chr ∨ e.typ = .blk) (huns : o.inUserNS = false)
    (hnew : w.fs.lookup (pathComps path) = none)
    (hok : ((createTarFileP path xd e o).run w).1 = .ok) :
    ∃ i n, ((createTarFileP path xd e o).run w).2.fs.lookup (pathComps path) = some i ∧
      ((createTarFileP path xd e o).run w).2.fs.inode i = some n ∧
      n.kind = kindOfTyp e.typ ∧ n.rdev = (e.devmajor, e.devminor) ∧ n.perm = e.mode &&& 0o7777 ∧
      n.mtime = some (boundTime e.mtime) ∧ (o.noLchown = false → (n.uid, n.gid) = o.chownOpts.getD (e.uid, e.gid)) := by
  obtain ⟨_, i, n, hl, hi, ⟨hk, hr⟩, hpm, hmt, hown⟩ :=
    createTarFile_dev_exact dp path xd e o hp hdev huns w ⟨hw, hnew⟩ hok
  exact ⟨i, n, hl, hi, hk, hr, hpm, hmt, hown⟩

end GA.C05
