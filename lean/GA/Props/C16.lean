import GA.M.Compress
import GA.Proofs.ListLemmas
/-
  C16 — compression is transparent and never silently corrupts.
  Decided here: the logic the repository contributes (detection tables and order, the sniffing
  window, pass-through, the pooled buffer protocol).  Partial: the codecs and their checksums
  (compress/gzip, bzip2, klauspost zstd, xz, unpigz) are assumed and exercised by the harness.
-/
namespace GA.C16
open GA GA.Compress

/-- the regenerated tables are what the theorems below are about -/
theorem tables_present :
    table.Perm [(1, some [66, 90, 104]), (2, some [31, 139, 8]), (3, some [253, 55, 122, 88, 90, 0]), (4, none)] ∧
    order.Perm [1, 2, 3, 4] ∧ Facts.zstdMagic? = some [40, 181, 47, 253] ∧
    Facts.zstdMagicSkippableStart? = some 0x184D2A50 ∧ Facts.zstdMagicSkippableMask? = some 0xFFFFFFF0 ∧
    Facts.compressionNone? = some 0 := by decide

theorem mem_table {e : Nat × Option (List UInt8)} (he : e ∈ table) :
    e = (1, some [66, 90, 104]) ∨ e = (2, some [31, 139, 8]) ∨ e = (3, some [253, 55, 122, 88, 90, 0]) ∨ e = (4, none) := by
  simpa using tables_present.1.mem_iff.mp he

/-- the format a first byte can announce -/
def cls (b : UInt8) : Nat := if b = 66 then 1 else if b = 31 then 2 else if b = 253 then 3 else 4

theorem skippable_first_byte (b c d e : UInt8)
    (h : (b.toNat + 256 * c.toNat + 65536 * d.toNat + 16777216 * e.toNat) &&& 4294967280 = 407710288) :
    b.toNat &&& 0xF0 = 0x50 := by
  have hb := b.toNat_lt
  have h2 := congrArg (· % 2^8) h
  simp only [Nat.and_mod_two_pow] at h2
  have : (b.toNat + 256 * c.toNat + 65536 * d.toNat + 16777216 * e.toNat) % 2^8 = b.toNat := by omega
  rw [this] at h2
  simpa using h2

theorem matcher_cls (b : UInt8) (rest : List UInt8) (e : Nat × Option (List UInt8)) (he : e ∈ table)
    (h : matcher e.2 (b :: rest) = true) : e.1 = cls b := by
  rcases mem_table he with rfl | rfl | rfl | rfl
  · simp [matcher] at h; simp [cls, ← h.1]
  · simp [matcher] at h; simp [cls, ← h.1]
  · simp [matcher] at h; simp [cls, ← h.1]
  · simp only [matcher, zstdMatch, zstdMagic, Facts.zstdMagic?, Option.getD_some, Bool.or_eq_true,
      Bool.and_eq_true, decide_eq_true_eq, beq_iff_eq] at h
    have hb : b = 40 ∨ b.toNat &&& 0xF0 = 0x50 := by
      rcases h with h | h
      · left; simp at h; exact h.1.symm
      · right
        obtain ⟨hlen, h2⟩ := h
        match rest, hlen, h2 with
        | c :: d :: e :: _, _, h2 =>
          simp only [le32, skipMask, skipStart, Facts.zstdMagicSkippableMask?, Facts.zstdMagicSkippableStart?,
            Option.getD_some] at h2
          exact skippable_first_byte b c d e h2
        | [], hlen, _ => simp at hlen
        | [_], hlen, _ => simp at hlen
        | [_, _], hlen, _ => simp at hlen
    have n1 : b ≠ 66 := by rintro rfl; rcases hb with hb | hb <;> revert hb <;> decide
    have n2 : b ≠ 31 := by rintro rfl; rcases hb with hb | hb <;> revert hb <;> decide
    have n3 : b ≠ 253 := by rintro rfl; rcases hb with hb | hb <;> revert hb <;> decide
    simp [cls, n1, n2, n3]

/-- every magic is at least three bytes long, and a skippable frame needs eight -/
theorem matcher_short (e : Nat × Option (List UInt8)) (he : e ∈ table) (src : List UInt8) (h : src.length ≤ 2) :
    matcher e.2 src = false := by
  have hpre : ∀ magic : List UInt8, 3 ≤ magic.length → magic.isPrefixOf src = false := fun magic hl => by
    cases hp : magic.isPrefixOf src with
    | false => rfl
    | true => have := (List.isPrefixOf_iff_prefix.mp hp).length_le; omega
  rcases mem_table he with rfl | rfl | rfl | rfl
  · exact hpre _ (by decide)
  · exact hpre _ (by decide)
  · exact hpre _ (by decide)
  · simp only [matcher, zstdMatch, hpre zstdMagic (by decide), Bool.false_or, Bool.and_eq_false_imp, decide_eq_true_eq]
    intro h8; omega

/-- **the magics are pairwise exclusive**: no input matches two formats, so the order in which
    `Detect` tries them is immaterial -/
theorem magics_exclusive (src : List UInt8) (e1 e2 : Nat × Option (List UInt8))
    (h1 : e1 ∈ table) (h2 : e2 ∈ table)
    (m1 : matcher e1.2 src = true) (m2 : matcher e2.2 src = true) : e1.1 = e2.1 := by
  cases src with
  | nil => rw [matcher_short e1 h1 [] (by simp)] at m1; cases m1
  | cons b rest => rw [matcher_cls b rest e1 h1 m1, matcher_cls b rest e2 h2 m2]

/-- the predicate `Detect` evaluates per format code -/
def hits (src : List UInt8) (c : Nat) : Bool :=
  match table.find? (fun e => e.1 = c) with
  | some e => matcher e.2 src
  | none => false

theorem detectWith_eq (ord : List Nat) (src : List UInt8) :
    detectWith ord src = match ord.find? (hits src) with | some c => c | none => cNone := rfl

theorem hits_true {src : List UInt8} {c : Nat} : hits src c = true → ∃ e ∈ table, e.1 = c ∧ matcher e.2 src = true := by
  fun_cases hits src c
  case case1 e he => exact fun h => ⟨e, List.mem_of_find?_eq_some he, by simpa using List.find?_some he, h⟩
  case case2 => nofun

theorem hits_unique (src : List UInt8) (c1 c2 : Nat) (h1 : hits src c1 = true) (h2 : hits src c2 = true) :
    c1 = c2 := by
  obtain ⟨e1, m1, rfl, g1⟩ := hits_true h1
  obtain ⟨e2, m2, rfl, g2⟩ := hits_true h2
  exact magics_exclusive src e1 e2 m1 m2 g1 g2

/-- **`Detect` does not depend on the order in which the formats are tried** -/
theorem detect_order_irrelevant (src : List UInt8) (ord : List Nat) (h : ∀ c, c ∈ ord ↔ c ∈ order) :
    detectWith ord src = detect src := by
  unfold detect
  rw [detectWith_eq ord, detectWith_eq order]
  cases h1 : order.find? (hits src) with
  | some c =>
    have hc := List.mem_of_find?_eq_some h1
    have hp := List.find?_some h1
    rw [find_unique (hits src) ord c ((h c).mpr hc) hp (fun y _ hy => hits_unique src y c hy hp)]
  | none =>
    have : ord.find? (hits src) = none := by
      rw [List.find?_eq_none] at h1 ⊢
      intro x hx; exact h1 x ((h x).mp hx)
    rw [this]

theorem hits_of_mem (src : List UInt8) (c : Nat) (m : Option (List UInt8)) (he : (c, m) ∈ table) :
    hits src c = matcher m src := by
  rcases mem_table he with h | h | h | h <;> cases h <;> rfl

theorem detect_of_match (src : List UInt8) (c : Nat) (m : Option (List UInt8)) (he : (c, m) ∈ table)
    (hc : c ∈ order) (hm : matcher m src = true) : detect src = c := by
  have hh : hits src c = true := by rw [hits_of_mem src c m he, hm]
  have : order.find? (hits src) = some c :=
    find_unique _ order c hc hh (fun y _ hy => hits_unique src y c hy hh)
  rw [detect, detectWith_eq, this]

theorem detect_none (src : List UInt8) (h : ∀ e ∈ table, matcher e.2 src = false) : detect src = cNone := by
  have : order.find? (hits src) = none :=
    List.find?_eq_none.mpr fun c _ hc =>
      have ⟨e, he, _, hm⟩ := hits_true hc
      nomatch (h e he).symm.trans hm
  rw [detect, detectWith_eq, this]

/-- every stream that starts with a format's magic is detected as that format -/
theorem detect_bzip2 (rest : List UInt8) : detect ([66, 90, 104] ++ rest) = 1 :=
  detect_of_match _ 1 (some [66, 90, 104]) (by decide) (by decide) (by simp [matcher])
theorem detect_gzip (rest : List UInt8) : detect ([31, 139, 8] ++ rest) = 2 :=
  detect_of_match _ 2 (some [31, 139, 8]) (by decide) (by decide) (by simp [matcher])
theorem detect_xz (rest : List UInt8) : detect ([253, 55, 122, 88, 90, 0] ++ rest) = 3 :=
  detect_of_match _ 3 (some [253, 55, 122, 88, 90, 0]) (by decide) (by decide) (by simp [matcher])
theorem detect_zstd (rest : List UInt8) : detect ([40, 181, 47, 253] ++ rest) = 4 :=
  detect_of_match _ 4 none (by decide) (by decide) (by simp [matcher, zstdMatch, zstdMagic, Facts.zstdMagic?])

/-- a stream of at least 8 bytes that starts with a skippable-frame magic (0x184D2A50–5F) is zstd -/
theorem detect_skippable (src : List UInt8) (hlen : 8 ≤ src.length)
    (hm : le32 src &&& 0xFFFFFFF0 = 0x184D2A50) : detect src = 4 :=
  detect_of_match src 4 none (by decide) (by decide) (by
    simp only [matcher, zstdMatch, Bool.or_eq_true, Bool.and_eq_true, decide_eq_true_eq, beq_iff_eq]
    exact Or.inr ⟨hlen, hm⟩)

/-- nothing shorter than three bytes is taken for a compressed stream -/
theorem detect_short (src : List UInt8) (h : src.length ≤ 2) : detect src = 0 :=
  detect_none src (fun e he => matcher_short e he src h)

/-- **pass-through is exact at every length**: what is not recognised is handed back unchanged -/
theorem passthrough_exact (codec : Nat → List UInt8 → Option (List UInt8)) (s : List UInt8)
    (h : sniff s = cNone) : decompressM codec s = some s := by simp [decompressM, h]

/-- only the first ten bytes decide -/
theorem sniff_window (s t : List UInt8) (h : s.take 10 = t.take 10) : sniff s = sniff t := by
  simp [sniff, h]

def BRInv (b : BR) : Prop := (b.hasBuf = true ∧ b.puts = 0) ∨ (b.hasBuf = false ∧ b.puts = 1)

theorem br_step_inv (b : BR) (op : BROp) (h : BRInv b) : BRInv (b.step op).2 := by
  fun_cases BR.step b op
  case case2 hb _ =>
    -- a read that reaches the end of the source lets go of the buffer, which until then was held
    rcases h with ⟨_, h2⟩ | ⟨h1, _⟩
    · exact Or.inr ⟨rfl, by simp [h2]⟩
    · simp [h1] at hb
  all_goals exact h

/-- **the pooled buffer goes back to the pool at most once**, exactly when the reader lets go of it -/
theorem br_put_once (src : List UInt8) (ops : List BROp) : BRInv ((BR.init src).run ops).2 := by
  have : ∀ (b : BR), BRInv b → BRInv (b.run ops).2 := by
    induction ops with
    | nil => intro b h; exact h
    | cons op ops ih => intro b h; simp only [BR.run]; exact ih _ (br_step_inv b op h)
  exact this _ (Or.inl ⟨rfl, rfl⟩)

/-- after the buffer was returned every further call reports end-of-stream and delivers nothing -/
theorem br_after_put (b : BR) (op : BROp) (h : b.hasBuf = false) : (b.step op).1 = ([], true) ∧ (b.step op).2 = b := by
  cases op <;> simp [BR.step, h]

theorem br_step_rest (b : BR) (op : BROp) :
    (match op with | .read _ => (b.step op).1.1 | .peek _ => []) ++ (b.step op).2.rest = b.rest := by
  fun_cases BR.step b op
  case case3 => exact List.take_append_drop _ _
  all_goals rfl

/-- what the reader delivers is a prefix of the source, byte for byte -/
theorem br_reads_prefix (ops : List BROp) : ∀ (b : BR), ∃ t, (b.run ops).1 ++ t = b.rest := by
  intro b
  fun_induction BR.run b ops
  case case1 b => exact ⟨b.rest, rfl⟩
  case case2 b op ops r out b' hrun ih =>
    obtain ⟨t, ht⟩ := ih
    rw [hrun] at ht
    refine ⟨t, ?_⟩
    rw [← br_step_rest b op, ← ht]
    cases op <;> simp only [List.append_assoc, List.nil_append] <;> rfl

end GA.C16
