import GA.Props.C05b
import GA.Props.C05
import GA.M.Pack
/-
  C03, one regular file end to end: the header the packer builds from `lstat` (FileInfoHeader), fed to
  the extractor's `createTarFile`, recreates the file's content, permission bits, owner and (whole-second)
  modification time.
-/
namespace GA.C03
open GA

theorem and_4095_of_lt (n : Nat) (h : n < 4096) : n &&& 0o7777 = n := by
  have : (0o7777 : Nat) = 2 ^ 12 - 1 := by decide
  rw [this, Nat.and_two_pow_sub_one_eq_mod, Nat.mod_eq_of_lt (by simpa using h)]

theorem header_fields (name : Str) (s : StatInfo) (capR : Res) (t : Int) (hperm : s.perm < 4096) (hmt : s.mtime = some t)
    (ht0 : 0 ≤ t) (ht1 : t ≤ 9223372036) (n : Inode) (hpm : n.perm = (buildHeader name s [] capR).mode &&& 0o7777)
    (hm : n.mtime = some (boundTime (buildHeader name s [] capR).mtime))
    (hown : (n.uid, n.gid) = ((buildHeader name s [] capR).uid, (buildHeader name s [] capR).gid)) :
    n.perm = s.perm ∧ n.uid = s.uid ∧ n.gid = s.gid ∧ n.mtime = some t := by
  refine ⟨?_, (Prod.mk.inj hown).1, (Prod.mk.inj hown).2, ?_⟩
  · rw [hpm]; exact and_4095_of_lt s.perm hperm
  · rw [hm]
    simp only [buildHeader, hmt, Option.getD_some]
    rw [C05.clamp_identity t ht0 ht1]

/-- **a regular file survives tar → untar**: archive it with the packer's header construction and extract
    that entry to a fresh path in a symlink-free destination with default options — the new file has the
    source's content, twelve mode bits, uid, gid and modification time (for times the format can hold) -/
theorem reg_file_roundtrip (dp : Path) (path xd name : Str) (s : StatInfo) (capR : Res) (data : List UInt8)
    (o : Opts) (w : World) (t : Int)
    (hkind : s.kind = .reg) (hperm : s.perm < 4096) (hmt : s.mtime = some t) (ht0 : 0 ≤ t) (ht1 : t ≤ 9223372036)
    (hsize : s.size = data.length) (hopt : o.noLchown = false ∧ o.chownOpts = none)
    (hw : LW dp w) (hp : LexArg dp path) (hnew : w.fs.lookup (pathComps path) = none)
    (hok : ((createTarFileP path xd { (buildHeader name s [] capR) with body := data } o).run w).1 = .ok) :
    ∃ i n, ((createTarFileP path xd { (buildHeader name s [] capR) with body := data } o).run w).2.fs.lookup
        (pathComps path) = some i ∧
      ((createTarFileP path xd { (buildHeader name s [] capR) with body := data } o).run w).2.fs.inode i = some n ∧
      n.kind = .reg ∧ n.data = data ∧ n.perm = s.perm ∧ n.uid = s.uid ∧ n.gid = s.gid ∧ n.mtime = some t := by
  have hreg : ({ (buildHeader name s [] capR) with body := data } : Entry).typ = .reg := by
    simp [buildHeader, hkind, typOfKind]
  obtain ⟨i, n, hl, hi, hk, hd, hpm, hm, hown, _⟩ :=
    C05.reg_entry_exact dp path xd _ o w hw hp hreg hnew hok
  have hown' := hown hopt.1
  rw [hopt.2] at hown'
  exact ⟨i, n, hl, hi, hk, hd, header_fields name s capR t hperm hmt ht0 ht1 n hpm hm hown'⟩

end GA.C03
