import GA.M.Unshare
/-
  C13 — chrooted operations never leak their root into the rest of the process.
  Decided here: the bookkeeping of `unshare.Go` (which threads are ever handed back), for every
  flag word, every combination of failures and every schedule of any number of calls.
  Partial: that the Go runtime terminates a thread whose goroutine exits locked, and that
  unshare(CLONE_FS) gives a private root/cwd/umask, are assumed; the harness observes real runs.
-/
namespace GA.C13
open GA GA.Unshare

/-- The fourth clause is the claim: a released thread is clean.  The other global ones tie the flag word to the
    bookkeeping: the unlock defer exists exactly when every flag is reversible, only then is the call reversible or the
    thread released, and irreversible taint needs an irreversible flag.  The clause per `PC` follows the reversible
    taint: what was asked for is open or still to open; then what is tainted is open; then, in a call still reversible,
    what is still tainted is still to restore — so that none is left at `unlock`. -/
def CallInv (c : CallState) : Prop :=
  (c.hadDefer = isReversibleFlags c.flags) ∧ (c.isRev = true → c.hadDefer = true) ∧
  (c.thread.taintIrrev = true → isReversibleFlags c.flags = false) ∧
  (c.released = true → c.thread.tainted = false) ∧
  (c.released = true → c.hadDefer = true) ∧
  match c.pc with
  | .opening rest => c.thread = {} ∧ c.released = false ∧ c.hadDefer = true ∧
      ∀ f ∈ reversible, has c.flags f = true → f ∈ c.opened ∨ f ∈ rest
  | .unshare => c.thread = {} ∧ c.released = false ∧
      (c.hadDefer = true → ∀ f ∈ reversible, has c.flags f = true → f ∈ c.opened)
  | .setup => c.released = false ∧ (c.hadDefer = true → ∀ f ∈ c.thread.taintRev, f ∈ c.opened)
  | .fn => c.released = false ∧ (c.hadDefer = true → ∀ f ∈ c.thread.taintRev, f ∈ c.opened)
  | .restoring rest => c.released = false ∧ c.hadDefer = true ∧ (c.isRev = true → ∀ f ∈ c.thread.taintRev, f ∈ rest)
  | .unlock => c.released = false ∧ c.hadDefer = true ∧ (c.isRev = true → c.thread.taintRev = [])
  | .exit => True
  | .done => True

theorem init_inv (flags : Nat) (o : Outcomes) : CallInv (CallState.init flags o) := by
  unfold CallState.init CallInv
  simp only
  cases h : isReversibleFlags flags
  · simp [Thread.tainted]
  · simp only [if_true]
    refine ⟨trivial, fun _ => trivial, by simp, by simp [Thread.tainted], by simp, trivial, trivial, trivial, ?_⟩
    intro f hf _; right; exact hf

theorem tainted_false_iff (t : Thread) : t.tainted = false ↔ t.taintIrrev = false ∧ t.taintRev = [] := by
  unfold Thread.tainted; cases t.taintIrrev <;> cases t.taintRev <;> simp

theorem ret_inv (c : CallState) (h1 : c.hadDefer = isReversibleFlags c.flags) (h2 : c.isRev = true → c.hadDefer = true)
    (h3 : c.thread.taintIrrev = true → isReversibleFlags c.flags = false)
    (h4 : c.released = false)
    (h5 : c.hadDefer = true → ∀ f ∈ c.thread.taintRev, f ∈ c.opened) : CallInv c.ret := by
  unfold CallState.ret CallInv
  simp only
  refine ⟨h1, h2, h3, by simp [h4], by simp [h4], ?_⟩
  by_cases hd : c.hadDefer = true
  · simp only [hd, if_true]
    exact ⟨h4, trivial, fun _ => h5 hd⟩
  · simp [hd]

/-- **one step of a call preserves the invariant** -/
theorem step_inv (c : CallState) (h : CallInv c) : CallInv (stepCall c) := by
  obtain ⟨flags, o, pc, thread, isRev, hadDefer, opened, fnRan, err, released⟩ := c
  obtain ⟨h1, h2, h3, h4, h5, hpc⟩ := h
  simp only at h1 h2 h3 h4 h5
  -- the cases follow the constructors of `PC`
  rcases pc with (_ | ⟨f, fs⟩) | _ | _ | _ | (_ | ⟨f, fs⟩) | _ | _ | _ <;> simp only at hpc <;> simp only [stepCall]
  · -- opening []: nothing is left to open, so what was asked for is open
    obtain ⟨ht, hr, hd, hall⟩ := hpc
    exact ⟨h1, h2, h3, h4, h5, ht, hr, fun _ g hg hh => (hall g hg hh).resolve_right (by simp)⟩
  · -- opening (f :: fs): `f` moves from the list to `opened`, or was not asked for
    obtain ⟨ht, hr, hd, hall⟩ := hpc
    split
    · split
      · refine ⟨h1, h2, h3, h4, h5, ht, hr, hd, fun g hg hh => ?_⟩
        rcases hall g hg hh with h' | h'
        · exact Or.inl (List.mem_cons_of_mem _ h')
        · rcases List.mem_cons.mp h' with rfl | h'
          · exact Or.inl List.mem_cons_self
          · exact Or.inr h'
      · exact ret_inv _ h1 h2 h3 hr (fun _ g hg => by subst ht; cases hg)
    · rename_i hhas
      refine ⟨h1, h2, h3, h4, h5, ht, hr, hd, fun g hg hh => ?_⟩
      rcases hall g hg hh with h' | h'
      · exact Or.inl h'
      · rcases List.mem_cons.mp h' with rfl | h'
        · exact absurd hh hhas
        · exact Or.inr h'
  · -- unshare: the thread is tainted by what was asked for; a reversible call has all of it open
    obtain ⟨ht, hr, hall⟩ := hpc
    split
    · refine ⟨h1, h2, ?_, by simp [hr], by simp [hr], hr, fun hd g hg => ?_⟩
      · intro hti
        cases hrv : isReversibleFlags flags <;> simp_all
      · have := List.mem_filter.mp hg
        exact hall hd g this.1 this.2
    · exact ret_inv _ h1 h2 h3 hr (fun _ g hg => by subst ht; cases hg)
  · split
    · exact ⟨h1, h2, h3, h4, h5, hpc⟩
    · exact ret_inv _ h1 h2 h3 hpc.1 hpc.2
  · exact ret_inv _ h1 h2 h3 hpc.1 hpc.2
  · -- restoring []: a call still reversible has restored every namespace it tainted
    obtain ⟨hr, hd, hall⟩ := hpc
    refine ⟨h1, h2, h3, h4, h5, hr, hd, fun hrev => ?_⟩
    cases htr : thread.taintRev with
    | nil => rfl
    | cons x xs => have := hall hrev x (by simp [htr]); cases this
  · -- restoring (f :: fs): `setns` cleans `f`, or fails and the call stops being reversible
    obtain ⟨hr, hd, hall⟩ := hpc
    split
    · rename_i hrev
      split
      · refine ⟨h1, h2, h3, by simp [hr], h5, hr, hd, fun _ g hg => ?_⟩
        have hg' := List.mem_filter.mp hg
        rcases List.mem_cons.mp (hall hrev g hg'.1) with rfl | h'
        · simp at hg'
        · exact h'
      · exact ⟨h1, by simp, h3, h4, h5, hr, hd, by simp⟩
    · rename_i hrev
      exact ⟨h1, h2, h3, h4, h5, hr, hd, fun h' => absurd h' hrev⟩
  · -- unlock: released only if still reversible, and then nothing irreversible or unrestored is left
    obtain ⟨hr, hd, hall⟩ := hpc
    refine ⟨h1, h2, h3, fun hrev => ?_, fun _ => hd, trivial⟩
    rw [tainted_false_iff]
    refine ⟨?_, hall hrev⟩
    cases hti : thread.taintIrrev with
    | false => rfl
    | true => have := h3 hti; rw [← h1, hd] at this; cases this
  · exact ⟨h1, h2, h3, h4, h5, trivial⟩
  · exact ⟨h1, h2, h3, h4, h5, trivial⟩

theorem runCall_inv (n : Nat) (c : CallState) (h : CallInv c) : CallInv (runCall n c) := by
  fun_induction runCall n c
  case case3 ih => exact ih (step_inv _ h)
  all_goals exact h

/-- **no tainted thread is ever released** — for all flags and all failure combinations -/
theorem released_implies_clean (flags : Nat) (o : Outcomes) :
    (goM flags o).released = true → (goM flags o).thread.tainted = false :=
  (runCall_inv _ _ (init_inv flags o)).2.2.2.1

theorem stepCall_flags (c : CallState) : (stepCall c).flags = c.flags := by
  fun_cases stepCall c <;> rfl

theorem runCall_flags (n : Nat) (c : CallState) : (runCall n c).flags = c.flags := by
  fun_induction runCall n c
  case case3 ih => rw [ih, stepCall_flags]
  all_goals rfl

/-- a released thread belonged to a call whose flags were all reversible -/
theorem released_only_if_reversible (flags : Nat) (o : Outcomes) :
    (goM flags o).released = true → isReversibleFlags flags = true := by
  intro h
  have inv : CallInv (goM flags o) := runCall_inv _ _ (init_inv flags o)
  have hfl : (goM flags o).flags = flags := runCall_flags _ _
  rw [← hfl, ← inv.1]
  exact inv.2.2.2.2.1 h

/-- **irreversible flags: the thread is never handed back**, whatever fails -/
theorem irreversible_never_released (flags : Nat) (o : Outcomes) (h : isReversibleFlags flags = false) :
    (goM flags o).released = false := by
  cases hr : (goM flags o).released with
  | false => rfl
  | true => have := released_only_if_reversible flags o hr; rw [h] at this; cases this

/-- `goInChroot`'s flag word (regenerated) is irreversible: its thread always dies -/
theorem goInChroot_thread_dies (o : Outcomes) :
    ∃ fl, Facts.goInChrootFlags? = some fl ∧ (goM fl o).released = false :=
  ⟨_, rfl, irreversible_never_released _ o (by decide)⟩

/-- the reversible table holds exactly the five namespaces whose unshare implies nothing else
    (CLONE_NEWCGROUP, NEWNET, NEWUTS, NEWPID, NEWTIME); CLONE_FS and CLONE_NEWNS are not in it -/
theorem reversible_table :
    Facts.reversibleFlags? = some [0x02000000, 0x40000000, 0x04000000, 0x20000000, 0x00000080] ∧
    Facts.clonefs? = some 0x200 ∧ Facts.clonenewns? = some 0x20000 := by decide

def ProcInv (p : Proc) : Prop := (∀ t ∈ p.pool, t.tainted = false) ∧ ∀ c ∈ p.calls, CallInv c

theorem proc_step_inv (p : Proc) (i : Nat) (h : ProcInv p) : ProcInv (p.step i) := by
  fun_cases Proc.step p i
  case case1 => exact h
  case case2 c hc c' pool' =>
    have hci := h.2 c (List.mem_of_getElem? hc)
    refine ⟨fun t ht => ?_, fun d hd => ?_⟩
    · unfold pool' at ht
      split at ht
      · rename_i hrel
        rcases List.mem_cons.mp ht with rfl | ht
        · exact hci.2.2.2.1 hrel.2
        · exact h.1 t ht
      · exact h.1 t ht
    · rcases List.mem_or_eq_of_mem_set hd with hd | rfl
      · exact h.2 d hd
      · exact step_inv c hci

/-- **the fungible pool never holds a tainted thread**, for every schedule -/
theorem pool_never_tainted (pool : List Thread) (calls : List (Nat × Outcomes)) (sched : List Nat)
    (hpool : ∀ t ∈ pool, t.tainted = false) :
    ∀ t ∈ (Proc.run { pool := pool, calls := calls.map (fun c => CallState.init c.1 c.2) } sched).pool,
      t.tainted = false := by
  have : ∀ (s : List Nat) (p : Proc), ProcInv p → ProcInv (p.run s) := by
    intro s
    induction s with
    | nil => intro p h; exact h
    | cons i is ih => intro p h; exact ih _ (proc_step_inv p i h)
  refine (this sched _ ⟨hpool, ?_⟩).1
  intro c hc
  simp at hc
  obtain ⟨a, b, _, rfl⟩ := hc
  exact init_inv a b

/-! ### obligations on the regenerated structure of the code -/

theorem go_structure :
    Facts.goLocksFirst = true ∧ Facts.unlockOnlyIfReversible = true ∧ Facts.isReversibleMonotone = true ∧
    Facts.startupThreadLocked = true ∧ Facts.goFailureReturns = true ∧ Facts.umaskUses = (1, 0) := by decide

/-- what makes the jailed thread's mounts and root private: `goInChroot` asks for `CLONE_FS | CLONE_NEWNS`,
    its set-up function makes the whole mount tree a recursive slave before switching the root (so nothing it
    mounts propagates back to the namespace the other goroutines see), the body is run unchanged, and
    nothing inside the body starts a goroutine -/
theorem jail_setup_structure :
    Facts.switchRootInSetup = true ∧ Facts.extractorUses = (3, 0) ∧
    Facts.jailBodyRootsFound = true ∧ Facts.jailBodyGoStmts = [] ∧
    (∃ fl fs ns, Facts.goInChrootFlags? = some fl ∧ Facts.clonefs? = some fs ∧ Facts.clonenewns? = some ns ∧
      fl &&& fs = fs ∧ fl &&& ns = ns ∧ fs ≠ 0 ∧ ns ≠ 0) :=
  ⟨by decide, by decide, by decide, by decide, _, _, _, rfl, rfl, rfl, by decide, by decide, by decide, by decide⟩

/-- in package chrootarchive no call changes a root or working directory except inside the set-up function handed
    to `unshare.Go` — on a thread that has unshared its file-system attributes; there is no second way into a jail
    (a fallback for when `unshare` is refused would change them for the whole process) — regenerated on every run -/
theorem no_jail_call_outside_unshare : Facts.jailCallsOutsideUnshare = 0 := by decide

/-- non-vacuity: a reversible call that is released, and an irreversible one that is not -/
example : (goM 0x04000000 ⟨fun _ => true, true, true, fun _ => true⟩).released = true ∧
          (goM 0x20200 ⟨fun _ => true, true, true, fun _ => true⟩).released = false ∧
          (goM 0x04000000 ⟨fun _ => true, true, true, fun _ => false⟩).released = false := by decide

end GA.C13
