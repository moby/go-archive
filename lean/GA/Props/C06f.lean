import GA.Proofs.LayerEntry
import GA.Props.C06c
/-
  C06, "all other entries behave as in plain extraction", for whole layers and directories: **a directory entry
  merges, and the last one wins**.  For every layer `pre ++ e :: post` without symbolic-link entries: if
  `ApplyLayer` reports success, `e` is a directory entry whose name is neither reserved, a whiteout nor the
  destination itself, and nothing after `e` names the same path, a path above it, a whiteout for it or for a path
  above it (later entries *beneath* it are welcome, and so are whiteouts and opaque markers beneath it), then
  afterwards the path names a directory with `e`'s mode bits, `e`'s (clamped) modification time — although
  creating or removing the later entries beneath it changed that time on the way — and the translated or
  overriding owner.
-/
namespace GA.C06
open GA

theorem layer_dir_last_wins (dest : Str) (o : Opts) (pre post : List Entry) (e : Entry) (um : Nat) (w : World)
    (habs : isAbs dest = true)
    (hsym : ∀ x ∈ pre ++ e :: post, x.typ ≠ .sym)
    (hw : LW (pathComps (clean dest)) w)
    (hdir : e.typ = .dir)
    (hmeta : hasPrefix (clean e.name) whMetaPrefix = false)
    (hnwh : hasPrefix (base (join (clean dest) (clean e.name))) whPrefix = false)
    (hne : pathComps (join (clean dest) (clean e.name)) ≠ pathComps (clean dest))
    (hcov : ¬ Cov (touchedL (clean dest) post) (pathComps (join (clean dest) (clean e.name))))
    (hok : ((applyLayerP dest o (pre ++ e :: post) um).run w).1.1 = .ok) :
    ∃ e' i n, remapE o e = some e' ∧
      ((applyLayerP dest o (pre ++ e :: post) um).run w).2.fs.lookup (pathComps (join (clean dest) (clean e.name))) = some i ∧
      ((applyLayerP dest o (pre ++ e :: post) um).run w).2.fs.inode i = some n ∧
      n.kind = .dir ∧ n.perm = e.mode &&& 0o7777 ∧ n.mtime = some (boundTime e.mtime) ∧
      (o.noLchown = false → (n.uid, n.gid) = o.chownOpts.getD (e'.uid, e'.gid)) := by
  have hd : CleanAbs (clean dest) := clean_cleanAbs dest habs
  obtain ⟨s1, w1, s2, w2, s3, w3, c1, hit, _, hpo, c3, hF, hok, hfs⟩ := applyLayer_split dest o pre post e um w habs hsym hw hok
  rw [hfs]
  obtain ⟨hPin, hw2, hd2, e', i, n2, hrem, hl2, hi2, hfin⟩ :=
    iterL_dir_post _ (clean dest) o hd rfl e s1 w1 c1.lw hdir hmeta hnwh hne s2 w2 hit
  have hcovT : ¬ Cov [pathComps (join (clean dest) tmpName)] (pathComps (join (clean dest) (clean e.name))) :=
    fun h => hcov (cov_mono (tmp_mem_touchedL _ _) h)
  have hancT := not_anc_tmp (clean dest) hd _ hPin hne hcovT
  -- the directory has one name; the remaining entries change at most its time
  obtain ⟨hl3, _, he3, _⟩ := hF.sole hl2 (fun p hp => hw2.inv.dirone _ _ i n2 hp hl2 hi2 hfin.1) hcov
  rw [hi2] at he3
  obtain ⟨n3, hi3, hen3⟩ := eraseM_of_map he3
  -- the deferred list: what the remaining entries added, then this entry, then the older ones
  obtain ⟨news, hshape, hnews⟩ := layerRun_dirs_shape (clean dest) o post s2 w2 s3 w3 hpo
  have hrev : s3.dirs.reverse = s1.dirs.reverse ++ ({ e with name := clean e.name } :: news.reverse) := by
    rw [hshape, hd2]; simp
  have hds : DirsOK (pathComps (clean dest)) (clean dest) s3.dirs.reverse :=
    fun x hx => c3.lex.dirs x (List.mem_reverse.mp hx)
  rw [layerLoop, Prog.bind_eq, Prog.run_bind] at hok ⊢
  rw [layerFinish_out] at hok
  rw [hrev] at hok hds ⊢
  have hav : ∀ x ∈ news.reverse, pathComps (join (clean dest) x.name) ≠ pathComps (join (clean dest) (clean e.name)) := by
    intro x hx heq
    obtain ⟨ex, hex, hxn⟩ := hnews x (List.mem_reverse.mp hx)
    exact hcov ⟨_, touchedOf_sub hex (show pathComps (join (clean dest) (clean ex.name)) ∈ touchedOf (clean dest) ex by
      simp [touchedOf]), by rw [← hxn, heq]; exact List.prefix_refl _⟩
  obtain ⟨n', hi', hen', hmt'⟩ := dirTimes_sets _ (clean dest) _ i n3 ((congrArg Inode.kind hen3).trans hfin.1)
    s1.dirs.reverse news.reverse { e with name := clean e.name } w3 c3.lw hds rfl hav hl3 hi3 hok
  -- the clean-up of the staging directory does not reach this directory, which still has its one name
  have hwb := (dirTimes_erase _ (clean dest) _ w3 c3.lw hds).1
  have hlb : ((dirTimesP (clean dest) (s1.dirs.reverse ++ { e with name := clean e.name } :: news.reverse)).run w3).2.fs.lookup
      (pathComps (join (clean dest) (clean e.name))) = some i := by
    rw [KeepsNames.run _ _ (keeps_dirTimes (clean dest) _)]; exact hl3
  obtain ⟨hk', hp', hu', hg'⟩ := eraseM_fields (hen'.trans hen3)
  obtain ⟨hlz, hiz⟩ := layerFinish_quiet _ (clean dest) hd s3 _ _ hwb c3.lex c3.fr i n' _ hlb hi'
    (fun q hq => hwb.inv.dirone _ _ i n' hq hlb hi' (hk'.trans hfin.1)) hcovT hancT
  obtain ⟨u, g, rfl⟩ := remapE_eq o e e' hrem
  refine ⟨_, i, n', hrem, hlz, hiz, hk'.trans hfin.1, hp'.trans hfin.2.1, hmt', fun hno => ?_⟩
  rw [hu', hg']
  exact hfin.2.2.2 hno

/-! ### non-vacuity: a directory entry, a file beneath it, and a whiteout beneath it -/

def exLDir : Entry := { name := b!"d/", typ := .dir, mode := 0o711, mtime := 1000 }
def exLChild : Entry := { name := b!"d/x", typ := .reg, mode := 0o644, mtime := 2000, body := b!"hi", size := 2 }
def exLWh : Entry := { name := b!"d/.wh.y", typ := .reg }

theorem exLDir_ok : ((applyLayerP b!"/w/dest" {} ([] ++ exLDir :: [exLChild, exLWh]) 0o022).run { fs := C05.exFS2 }).1.1 = .ok := by
  decide +kernel

example : ∃ i n, ((applyLayerP b!"/w/dest" {} ([] ++ exLDir :: [exLChild, exLWh]) 0o022).run { fs := C05.exFS2 }).2.fs.lookup
      [b!"w", b!"dest", b!"d"] = some i ∧
    ((applyLayerP b!"/w/dest" {} ([] ++ exLDir :: [exLChild, exLWh]) 0o022).run { fs := C05.exFS2 }).2.fs.inode i = some n ∧
    n.kind = .dir ∧ n.perm = 0o711 ∧ n.mtime = some 1000 := by
  have hP : pathComps (join (clean b!"/w/dest") (clean exLDir.name)) = [b!"w", b!"dest", b!"d"] := by decide
  obtain ⟨e', i, n, _, hl, hi, hk, hpm, hmt, _⟩ := layer_dir_last_wins b!"/w/dest" {} [] [exLChild, exLWh] exLDir 0o022
    { fs := C05.exFS2 } (by decide)
    (by intro x hx; simp [exLDir, exLChild, exLWh] at hx; rcases hx with rfl | rfl | rfl <;> simp)
    C05.exFS2_LW rfl (by decide) (by decide) (by rw [hP]; decide)
    (by decide)
    exLDir_ok
  rw [hP] at hl
  exact ⟨i, n, hl, hi, hk, by rw [hpm]; decide, by rw [hmt]; decide⟩

end GA.C06
