import GA.Proofs.PathLemmas
import GA.Proofs.PackAll
/-
  C08 — include/exclude selection follows .dockerignore semantics.
  Decided here, for every pattern list (patterns are abstract predicates: the regexp compilation
  of moby/patternmatcher is outside the model and inside the correspondence diff):
   * what `MatchesUsingParentResults` computes is "the last matching pattern wins", where a
     pattern matches when it matched the parent directory, or matches the path itself, or (when
     no parent information is supplied) matches one of the path's lexical parents;
   * the evaluation-skipping optimisation never changes the verdict;
   * the walker's ancestor stack, after popping, holds exactly the pushed directories that are
     proper "/"-ancestors of the current path (the `dir` versus `dir2` lemma);
   * a rebased include is renamed only in its leading occurrence (`C14.rebaseLeading_exact`).
-/
namespace GA.C08
open GA

/-- would pattern `p` (index `i`) count as matching `file`, given the parent's per-pattern results -/
def wouldMatch (file : Str) (parent : List Bool) (p : Pat) (i : Nat) : Bool :=
  if parent.isEmpty then p.m file || (parentPrefixes file).any p.m
  else parent.getD i false || p.m file

/-- last matching pattern wins: fold over the patterns in order -/
def lastWins (file : Str) (parent : List Bool) : List Pat → Nat → Bool → Bool
  | [], _, acc => acc
  | p :: ps, i, acc => lastWins file parent ps (i + 1) (if wouldMatch file parent p i then !p.excl else acc)

/-- **the verdict of `MatchesUsingParentResults` is "last matching pattern wins"**; skipping the
    evaluation of a pattern that cannot change the running verdict is sound -/
theorem murLoop_verdict (file : Str) (parent : List Bool) : ∀ (ps : List Pat) (i : Nat) (matched : Bool) (acc : List Bool),
    (murLoop file parent ps i matched acc).1 = lastWins file parent ps i matched := by
  intro ps i matched acc
  -- each of the loop's three branches hands on `if wouldMatch … then !p.excl else matched`
  fun_induction murLoop file parent ps i matched acc
  case case1 => rfl
  case case2 p _ i _ _ pm hpm ih =>
    have hw : wouldMatch file parent p i = true := by
      cases hpe : parent.isEmpty <;> simp [pm, hpe] at hpm
      simp [wouldMatch, hpe, hpm]
    rw [ih, lastWins, hw, if_pos rfl]
  case case3 p _ _ matched _ _ _ hsk ih =>
    -- skipped: whatever the pattern says, the verdict stays
    have : (!p.excl) = matched := by revert hsk; cases p.excl <;> cases matched <;> decide
    rw [ih, lastWins, this, ite_self]
  case case4 p _ i _ _ pm hpm _ m0 m1 ih =>
    rw [ih, lastWins]
    congr 1
    cases hpe : parent.isEmpty <;> cases h0 : p.m file <;> simp [wouldMatch, pm, m1, m0, hpe, h0] at hpm ⊢ <;> simp [hpm]

theorem mur_verdict (pats : List Pat) (file : Str) (parent : List Bool) :
    (mur pats file parent).1 = lastWins file parent pats 0 false := murLoop_verdict file parent pats 0 false []

/-- with no patterns nothing is excluded -/
theorem mur_no_patterns (file : Str) (parent : List Bool) : (mur [] file parent).1 = false := rfl

/-- a trailing `!` pattern that matches re-includes; a trailing plain pattern that matches excludes -/
theorem lastWins_snoc (file : Str) (parent : List Bool) (ps : List Pat) (p : Pat) (i : Nat) (acc : Bool)
    (h : wouldMatch file parent p (i + ps.length) = true) :
    lastWins file parent (ps ++ [p]) i acc = !p.excl := by
  induction ps generalizing i acc with
  | nil => simp [lastWins] at h ⊢; simp [h]
  | cons q qs ih =>
    simp only [List.cons_append, lastWins]
    apply ih
    simpa [Nat.add_assoc, Nat.add_comm 1] using h

def isAncestor (rel top : Str) : Bool := hasPrefix rel (top ++ slashStr)

theorem isAncestor_trans (a b c : Str) (h1 : isAncestor b a = true) (h2 : isAncestor c b = true) :
    isAncestor c a = true := by
  simp only [isAncestor, hasPrefix, List.isPrefixOf_iff_prefix] at *
  exact h1.trans ((List.prefix_append _ _).trans h2)

/-- a stack is a chain when each element is a "/"-ancestor of the one above it -/
def Chain : List (Str × List Bool) → Prop
  | [] => True
  | [_] => True
  | x :: y :: rest => isAncestor x.1 y.1 = true ∧ Chain (y :: rest)

theorem chain_cons (x : Str × List Bool) (s : List (Str × List Bool)) :
    Chain (x :: s) ↔ (∀ y, s.head? = some y → isAncestor x.1 y.1 = true) ∧ Chain s := by
  cases s <;> simp [Chain]

theorem Chain.dropWhile (p : Str × List Bool → Bool) : ∀ (s : List (Str × List Bool)), Chain s → Chain (s.dropWhile p) := by
  intro s
  fun_induction List.dropWhile p s
  case case2 x s _ ih => exact fun h => ih ((chain_cons x s).mp h).2
  all_goals exact id

theorem chain_all_ancestors : ∀ (stk : List (Str × List Bool)) (top : Str × List Bool) (rel : Str),
    Chain (top :: stk) → isAncestor rel top.1 = true → ∀ x ∈ top :: stk, isAncestor rel x.1 = true
  | [], top, rel, _, h, x, hx => by simp at hx; subst hx; exact h
  | y :: rest, top, rel, hc, h, x, hx => by
    rcases List.mem_cons.mp hx with rfl | hx
    · exact h
    · exact chain_all_ancestors rest y rel hc.2 (isAncestor_trans y.1 top.1 rel hc.1 h) x hx

/-- **after popping, the stack holds exactly the pushed directories that are "/"-ancestors of the
    current path** — in particular a sibling `dir2` never sees the results of `dir` -/
theorem pop_eq_filter : ∀ (stk : List (Str × List Bool)) (rel : Str), Chain stk →
    stk.dropWhile (fun top => !isAncestor rel top.1) = stk.filter (fun top => isAncestor rel top.1)
  | [], _, _ => rfl
  | top :: rest, rel, hc => by
    by_cases h : isAncestor rel top.1 = true
    · rw [List.dropWhile_cons_of_neg (by simp [h]), List.filter_eq_self.mpr (chain_all_ancestors rest top rel hc h)]
    · rw [List.dropWhile_cons_of_pos (by simp [h]), List.filter_cons_of_neg (by simpa using h)]
      exact pop_eq_filter rest rel ((chain_cons top rest).mp hc).2

theorem push_chain (stk : List (Str × List Bool)) (rel : Str) (info : List Bool) (hc : Chain stk) :
    Chain ((rel, info) :: stk.dropWhile (fun top => !isAncestor rel top.1)) := by
  refine (chain_cons _ _).mpr ⟨fun y hy => ?_, hc.dropWhile _ stk⟩
  -- popping stops at an ancestor
  have := List.head?_dropWhile_not (fun top => !isAncestor rel top.1) stk
  rw [hy] at this
  simpa using this

/-- the "/" in the pop test is what separates `d` from `d2`: a name that merely starts with the
    directory's name is not beneath it -/
theorem sibling_prefix_not_ancestor :
    isAncestor b!"d2/x" b!"d" = false ∧ isAncestor b!"d/x" b!"d" = true ∧ isAncestor b!"d.x" b!"d" = false := by decide

/-- a component-wise ancestor is a "/"-ancestor and conversely (relative cleaned paths) -/
theorem isAncestor_iff_comps (xs ys : List Str) (hx : ∀ c ∈ xs, NoSlash c) (hy : ∀ c ∈ ys, NoSlash c)
    (hxn : xs ≠ []) (hyn : ys ≠ []) :
    isAncestor (joinSlash ys) (joinSlash xs) = true ↔ ∃ t, t ≠ [] ∧ ys = xs ++ t := by
  simp only [isAncestor, hasPrefix, List.isPrefixOf_iff_prefix, slashStr]
  constructor
  · rintro ⟨t, ht⟩
    have hs := congrArg splitSlash ht
    rw [List.append_assoc, List.singleton_append, splitSlash_append_slash, splitSlash_joinSlash xs hxn hx,
      splitSlash_joinSlash ys hyn hy] at hs
    exact ⟨splitSlash t, splitSlash_ne_nil t, hs.symm⟩
  · rintro ⟨t, htn, rfl⟩
    exact ⟨joinSlash t, by rw [joinSlash_append xs t hxn htn]; simp⟩

/-! ### overlapping or repeated includes: each relative path is handed to `addTarFile` at most once -/

theorem emit_seen (st : PackState) (path : Str) (hdr : Entry) :
    (emitP st path hdr).All (fun st' => st'.seenNames = st.seenNames) :=
  RProg.All.mono (by rintro st' ⟨body, rfl⟩; rfl) _ (emitP_all st path hdr)

theorem overlay_seen (o : PackOpts) (st0 st : PackState) (path : Str) (s : StatInfo) (hdr : Entry)
    (h0 : st0.seenNames = st.seenNames) :
    (overlayP o st0 st path s hdr).All (fun st' => st'.seenNames = st.seenNames) := by
  fun_cases overlayP o st0 st path s hdr
  case case1 => exact emit_seen st path _
  case case2 =>
    -- a directory; `lgetxattr` answers a value (the opaque mark, or another), "no such attribute", or fails
    intro oq
    simp only
    split
    · split
      · rfl
      · exact emit_seen st path _
    · exact emit_seen st path _
    · exact h0

theorem linkStage_seen (st : PackState) (name : Str) (s : StatInfo) (hdr : Entry) :
    (linkStage st name s hdr).2.seenNames = st.seenNames := by
  fun_cases linkStage st name s hdr <;> rfl

theorem addTarFile_seen (o : PackOpts) (st : PackState) (path name : Str) :
    (addTarFileP o st path name).All (fun st' => st'.seenNames = st.seenNames) := by
  refine addTarFileP_all o st path name rfl (fun s link capR => ?_)
  have hls := linkStage_seen st name s (buildHeader name s link capR)
  fun_cases afterStatP o st path name s link capR
  case case1 => rfl
  case case2 => exact RProg.All.mono (fun st' h => h.trans hls) _ (overlay_seen o st _ path s _ hls.symm)
  case case3 => exact RProg.All.mono (fun st' h => h.trans hls) _ (emit_seen _ path _)

theorem add_seen_nodup (o : PackOpts) (st : PackState) (relp path name : Str) (h : st.seenNames.Nodup)
    (hnew : st.seenNames.contains relp = false) :
    (addTarFileP o { st with seenNames := relp :: st.seenNames } path name).All (fun st' => st'.seenNames.Nodup) :=
  RProg.All.mono (fun st' h' => by rw [h']; exact List.nodup_cons.mpr ⟨by simpa using hnew, h⟩) _
    (addTarFile_seen o _ path name)

/-- the walk of one include keeps the list of names handed to `addTarFile` free of repetitions -/
theorem walk_seen_nodup (o : PackOpts) (src inc : Str) :
    ∀ (items : List (Str × Kind × Nat)) (ws : WalkSt) (st : PackState), st.seenNames.Nodup →
      (walkP o src inc items ws st).All (fun st' => st'.seenNames.Nodup) :=
  walkP_all o src (add_seen_nodup o) inc

/-- **every relative path is handed to `addTarFile` at most once across all includes**, however the
    includes overlap or repeat -/
theorem includes_seen_nodup (o : PackOpts) (src : Str) :
    ∀ (incs : List Str) (st : PackState), st.seenNames.Nodup →
      (includesP o src incs st).All (fun st' => st'.seenNames.Nodup) :=
  includesP_all o src (add_seen_nodup o)

end GA.C08
