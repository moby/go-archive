import GA.Props.C20
import GA.Proofs.LayerWalk
/-
  C20 for the layer entry point.  `UnpackLayer` has one call whose failure it deliberately ignores: the
  deferred `os.RemoveAll` of its staging directory.  Everything else is strict.  Because the staging
  directory's name is whatever `mkdtemp` really returned, the statement is made along real runs with
  injected faults (`StrictSem`), not for arbitrary call results.
-/
namespace GA.C20
open GA

/-- the one tolerated refusal of the layer loop: removal of its own staging directory -/
def isCleanup (dest : Str) : Sys → Bool
  | .removeAll p => p == join dest tmpName
  | _ => false

/-- along every run from any world, with any result replaced by an injected error: once a mutating call
    that is not the staging clean-up was refused with a non-tolerated error, every reachable leaf fails -/
def StrictSem {α : Type} (o : Opts) (dest : Str) (fail : α → Prop) : Prog α → Prop
  | .ret _ => True
  | .call s k =>
    (∀ w, StrictSem o dest fail (k (step w s).1)) ∧ (∀ e, StrictSem o dest fail (k (.err e))) ∧
    (isMut s = true → isCleanup dest s = false → ∀ r, (match r with
        | .err e => tolerated o s e = false
        | .blocked => True
        | _ => False) → (k r).All fail)

theorem Strict.toSem {α : Type} (o : Opts) (dest : Str) {fail : α → Prop} :
    ∀ (p : Prog α), Strict o fail p → StrictSem o dest fail p
  | .ret _, _ => True.intro
  | .call _ k, h =>
    ⟨fun _ => Strict.toSem o dest (k _) (h _).1, fun _ => Strict.toSem o dest (k _) (h _).1,
     fun hm _ r hr => (h r).2 hm hr⟩

theorem StrictSem.bind {α β : Type} (o : Opts) (dest : Str) {failA : α → Prop} {failB : β → Prop} :
    ∀ (m : Prog α) (f : α → Prog β), StrictSem o dest failA m → (∀ a, failA a → (f a).All failB) →
      (∀ a, StrictSem o dest failB (f a)) → StrictSem o dest failB (m.bind f)
  | .ret a, _, _, _, hf => hf a
  | .call _ k, f, hm, hfail, hf =>
    ⟨fun w => StrictSem.bind o dest (k _) f (hm.1 w) hfail hf,
     fun e => StrictSem.bind o dest (k _) f (hm.2.1 e) hfail hf,
     fun hmut hc r hr => Prog.All.bind (k r) f (hm.2.2 hmut hc r hr) hfail⟩

theorem sem_ret {α : Type} (o : Opts) (dest : Str) (fail : α → Prop) (a : α) : StrictSem o dest fail (pure a : Prog α) :=
  True.intro

/-- run with a fault oracle, recording whether a mutating call other than the staging clean-up was refused -/
def runWL {α : Type} (o : Opts) (dest : Str) (faults : Nat → Option Errno) : Nat → Prog α → World → α × Bool
  | _, .ret a, _ => (a, false)
  | i, .call s k, w =>
    match faults i with
    | some e =>
      let r := runWL o dest faults (i + 1) (k (.err e)) w
      (r.1, r.2 || (isMut s && !isCleanup dest s && !tolerated o s e))
    | none =>
      let r := runWL o dest faults (i + 1) (k (step w s).1) (step w s).2
      (r.1, r.2 || (isMut s && !isCleanup dest s && (match (step w s).1 with
        | .err e => !tolerated o s e
        | .blocked => true
        | _ => false)))

theorem all_runWL {α : Type} (o : Opts) (dest : Str) (faults : Nat → Option Errno) {P : α → Prop} :
    ∀ (p : Prog α) (i : Nat) (w : World), p.All P → P (runWL o dest faults i p w).1 := by
  intro p i w
  fun_induction runWL o dest faults i p w
  case case1 => exact id
  case case2 ih | case3 ih => exact fun h => ih (h _)

theorem sem_runWL {α : Type} (o : Opts) (dest : Str) (faults : Nat → Option Errno) {fail : α → Prop} :
    ∀ (p : Prog α) (i : Nat) (w : World), StrictSem o dest fail p → (runWL o dest faults i p w).2 = true →
      fail (runWL o dest faults i p w).1 := by
  intro p i w
  fun_induction runWL o dest faults i p w
  case case1 => nofun
  case case2 k _ e _ _ ih =>
    -- an injected fault
    intro hs h
    simp only [Bool.or_eq_true, Bool.and_eq_true, Bool.not_eq_true'] at h
    rcases h with h | ⟨⟨hm, hc⟩, ht⟩
    · exact ih (hs.2.1 e) h
    · exact all_runWL o dest faults (k _) _ _ (hs.2.2 hm hc (.err e) ht)
  case case3 s k w _ _ ih =>
    -- the kernel's own answer
    intro hs h
    simp only [Bool.or_eq_true, Bool.and_eq_true, Bool.not_eq_true'] at h
    rcases h with h | ⟨⟨hm, hc⟩, ht⟩
    · exact ih (hs.1 w) h
    · refine all_runWL o dest faults (k _) _ _ (hs.2.2 hm hc _ ?_)
      revert ht
      cases (step w s).1 <;> simp

def AnsAny (s : Sys) (r : Res) : Prop := (∃ w, r = (step w s).1) ∨ ∃ e, r = .err e

/-- every leaf reachable along real runs with injected errors satisfies `Q` -/
abbrev SemAll {α : Type} (Q : α → Prop) (p : Prog α) : Prop := p.Sem (fun _ => True) AnsAny Q

/-- `StrictSem.bind` whose continuation may assume a fact `Q` that holds of the value along real runs (`SemAll`):
    the name `mkdtemp` gave, `TmpOK` of the state after an iteration -/
theorem StrictSem.bindQ {α β : Type} (o : Opts) (dest : Str) {failA Q : α → Prop} {failB : β → Prop} :
    ∀ (m : Prog α) (f : α → Prog β), StrictSem o dest failA m → SemAll Q m → (∀ a, failA a → (f a).All failB) →
      (∀ a, Q a → StrictSem o dest failB (f a)) → StrictSem o dest failB (m.bind f)
  | .ret a, _, _, hq, _, hf => hf a hq
  | .call _ k, f, hm, hq, hfail, hf =>
    ⟨fun w => StrictSem.bindQ o dest (k _) f (hm.1 w) (hq.2 _ (.inl ⟨w, rfl⟩)) hfail hf,
     fun e => StrictSem.bindQ o dest (k _) f (hm.2.1 e) (hq.2 _ (.inr ⟨e, rfl⟩)) hfail hf,
     fun hmut hc r hr => Prog.All.bind (k r) f (hm.2.2 hmut hc r hr) hfail⟩

/-- the staging directory the state remembers is the one `mkdtemp` makes in this destination (or none yet) -/
def TmpOK (dest : Str) (st : LState) : Prop := st.tmp = [] ∨ st.tmp = join dest tmpName

def failL (r : Out × Nat) : Prop := r.1 ≠ .ok

theorem finish_fails (dest : Str) (st : LState) (out : Out) (h : out ≠ .ok) : (layerFinish dest st out).All failL :=
  Prog.All.bind_any _ _ fun _ => Prog.All.pure _ h

theorem sem_finish (o : Opts) (dest : Str) (st : LState) (out : Out) (ht : TmpOK dest st) :
    StrictSem o dest failL (layerFinish dest st out) := by
  unfold layerFinish
  show StrictSem o dest failL (Prog.bind _ _)
  split
  · rename_i hne
    rcases ht with h | h
    · exact absurd h hne
    · refine ⟨fun _ => True.intro, fun _ => True.intro, fun _ hc => ?_⟩
      exfalso
      simp [isCleanup, h] at hc
  · exact True.intro

def failStage (r : Except Out LState) : Prop := ∃ out, r = .error out ∧ out ≠ .ok

/-- staging: a refused `mkdtemp` or any refusal while writing the staged file is reported (the clean-up of the
    directory made just before is the tolerated call) -/
theorem sem_stage (o : Opts) (dest : Str) (e : Entry) (st : LState) (n : Str) (ht : TmpOK dest st) :
    StrictSem o dest failStage (stageP dest o e st n) := by
  fun_cases stageP dest o e st n
  case case1 =>
    refine StrictSem.bindQ o dest (failA := fun r => isErr r = true)
      (Q := fun mk => ∀ t, mk = .str t → t = join dest tmpName) _ _ ?_ ?_ ?_ ?_
    · split
      · exact Strict.toSem o dest _ (strict_sys o _)
      · exact sem_ret o dest _ _
    · split
      · exact sem_sys _ trivial fun r hr t ht' => by
          rcases hr with ⟨w, rfl⟩ | ⟨_, rfl⟩
          · exact mkdtemp_result w dest _ t ht'
          · cases ht'
      · rename_i hne
        intro t h
        injection h with h
        rcases ht with h0 | h0
        · exact absurd h0 hne
        · rw [← h]; exact h0
    · intro mk hmk
      cases mk <;> first | exact ⟨_, rfl, ne_ok_err⟩ | simp [isErr] at hmk
    · intro mk hmk
      split
      · rename_i t
        have htt := hmk t rfl
        refine StrictSem.bind o dest (failA := fun out => out ≠ .ok) _ _ (Strict.toSem o dest _ (strict_createTarFile o _ _ _)) ?_ ?_
        · intro out hout
          have : (out != Out.ok) = true := by simpa using hout
          simp only [this, if_true]
          split
          · intro _; exact ⟨out, rfl, hout⟩
          · exact ⟨out, rfl, hout⟩
        · intro out
          split
          · split
            · refine ⟨fun _ => True.intro, fun _ => True.intro, fun _ hc => ?_⟩
              exfalso
              simp [isCleanup, htt] at hc
            · exact sem_ret o dest _ _
          · exact sem_ret o dest _ _
      · exact sem_ret o dest _ _
  case case2 => exact sem_ret o dest _ _

theorem strict_opaqueWalk (o : Opts) (dirS : Str) (unpacked : List Str) :
    ∀ (items : List (Str × Kind × Nat)) (skip : Option Nat),
      Strict o (fun r => isErr r = true) (opaqueWalkP dirS unpacked items skip)
  | [], _ => strict_ret o _ _
  | (q, k, d) :: rest, skip => by
    have hrest := strict_opaqueWalk o dirS unpacked rest
    rw [opaqueWalkP_cons]
    exact ite_rule (fun _ => hrest _) fun _ => ite_rule (fun _ => hrest _) fun _ => ite_rule (fun _ => hrest _) fun _ =>
      Strict.bind o _ _ (strict_sys o _) (fun r hr => by rw [if_pos hr]; exact Prog.All.pure _ hr) fun r =>
        ite_rule (fun _ => strict_ret o _ _) fun _ => hrest _

def failWh (r : Option Res) : Prop := r = none ∨ ∃ x, r = some x ∧ isErr x = true

theorem strict_whiteoutRemove (o : Opts) (orig : Str) : Strict o failWh (whiteoutRemoveP orig) := by
  unfold whiteoutRemoveP
  intro s
  refine ⟨?_, fun hm => by simp [isMut] at hm⟩
  simp only
  split
  · exact True.intro
  · intro r
    refine ⟨True.intro, fun _ hr => ?_⟩
    right
    refine ⟨r, rfl, ?_⟩
    cases r <;> simp_all [isErr]

theorem strict_resolveSrc (o : Opts) (st : LState) (e : Entry) :
    Strict o (fun (r : Except Out Entry) => ∃ out, r = .error out ∧ out ≠ .ok) (resolveSrcP st e) := by
  fun_cases resolveSrcP st e
  case case2 =>
    refine Strict.bind o _ _ (strict_info o _ rfl (fun _ => False)) (fun _ h => h.elim) fun d => ?_
    split <;> exact strict_ret o _ _
  all_goals exact strict_ret o _ _

theorem ne_ok_breakout : Out.breakout ≠ Out.ok := by decide

def failIter (r : LayerRes) : Prop := ∃ out st, r = .error (out, st) ∧ out ≠ .ok

/-! After staging an iteration makes no call whose refusal it ignores: its stages are strict whatever the calls answer. -/

section stages
variable (o : Opts) (dest : Str) (st : LState)

theorem strict_layerOpaqueK (dr : Str) : Strict o failIter (layerOpaqueK st dr pure) := by
  unfold layerOpaqueK
  refine strict_look o _ rfl _ fun l => ite_both trivial (strict_look o _ rfl _ fun t => ?_)
  split
  · exact Strict.bind o _ _ (strict_opaqueWalk o _ _ _ _)
      (fun wr hwr => by rw [if_pos hwr]; exact ⟨_, _, rfl, ne_ok_err⟩) fun wr => ite_both trivial trivial
  · trivial
  · trivial

theorem strict_layerWhiteoutK (orig : Str) : Strict o failIter (layerWhiteoutK dest st orig pure) := by
  unfold layerWhiteoutK
  refine ite_both trivial (ite_both trivial (Strict.bind o _ _ (strict_whiteoutRemove o _) ?_ fun r => ?_))
  · rintro r (rfl | ⟨x, rfl, hx⟩)
    · exact ⟨_, _, rfl, ne_ok_err⟩
    · simp only [hx, if_true]; exact ⟨_, _, rfl, ne_ok_err⟩
  · split
    · trivial
    · exact ite_both trivial trivial

theorem strict_layerTailK (e : Entry) (p : Str) : Strict o failIter (layerTailK dest o e st p pure) := by
  unfold layerTailK
  refine Strict.bind o _ _ (strict_resolveSrc o st e) ?_ fun srcR => ?_
  · rintro srcR ⟨out, rfl, hout⟩
    exact ⟨_, _, rfl, hout⟩
  split
  · trivial
  split
  · trivial
  exact Strict.bind o _ _ (strict_createTarFile o _ _ _)
    (fun out hout => by rw [if_pos (by simpa using hout)]; exact ⟨_, _, rfl, hout⟩) fun out => ite_both trivial trivial

theorem strict_layerEntryK (e : Entry) (p : Str) : Strict o failIter (layerEntryK dest o e st p pure) := by
  unfold layerEntryK
  refine strict_look o _ rfl _ fun l => ite_both trivial ?_
  exact Strict.bind o (failA := fun r => isErr r = true) _ _ (ite_both (strict_sys o _) (strict_ret o _ _))
    (fun rm hrm => by rw [if_pos hrm]; exact ⟨_, _, rfl, ne_ok_err⟩) fun rm => ite_both trivial (strict_layerTailK o dest st e p)

theorem strict_layerNamedK (e : Entry) : Strict o failIter (layerNamedK dest o e st pure) := by
  fun_cases layerNamedK dest o e st pure
  case case3 =>
    unfold layerAtK layerMarkK
    exact Strict.bind o _ _ (strict_impliedDirs o dest _) (fun i hi => by rw [if_pos hi]; exact ⟨_, _, rfl, ne_ok_err⟩) fun i =>
      ite_both trivial (ite_both (ite_both trivial (ite_both (strict_layerOpaqueK o st _) (strict_layerWhiteoutK o dest st _)))
        (strict_layerEntryK o dest st e _))
  all_goals trivial

end stages

theorem sem_layerIter (o : Opts) (dest : Str) (e : Entry) (st0 : LState) (ht0 : TmpOK dest st0) :
    StrictSem o dest failIter (layerIterP dest o e st0) := by
  rw [layerIterP_eq]
  unfold layerIterK
  refine ite_both trivial (StrictSem.bind o dest _ _ (sem_stage o dest e _ _ ht0) ?_ fun stR => ?_)
  · rintro stR ⟨out, rfl, hout⟩
    exact ⟨_, _, rfl, hout⟩
  split
  · trivial
  · exact Strict.toSem o dest _ (strict_layerNamedK o dest _ e)

theorem tmp_layerIter (o : Opts) (dest : Str) (e : Entry) (st0 : LState) (ht0 : TmpOK dest st0) :
    SemAll (fun r => TmpOK dest (resSt r)) (layerIterP dest o e st0) :=
  (walk_layerIter dest o e st0 (fun _ _ => trivial) fun _ _ _ _ _ _ => trivial).imp fun r ⟨st, hs, he⟩ => by
      rw [TmpOK, he.tmp]
      cases hs with
      | skip => exact ht0
      | staged _ hat => exact Or.inr (hat.eq (fun t hr => hr.elim (fun ⟨w, h⟩ => ⟨w, h.symm⟩) (fun ⟨_, h⟩ => nomatch h)) ht0)

/-- **the layer loop is strict**: a refused mutating call other than the staging clean-up, at any entry, at any
    step — staging, implied parents, whiteout removal, opaque walk, replace, create, metadata, deferred directory
    times — makes the result an error -/
theorem sem_layerLoop (o : Opts) (dest : Str) : ∀ (es : List Entry) (st : LState), TmpOK dest st →
    StrictSem o dest failL (layerLoop dest o es st)
  | [], st, ht => by
    rw [layerLoop]
    exact StrictSem.bind o dest _ _ (Strict.toSem o dest _ (strict_dirTimes o dest _))
      (fun r hr => finish_fails dest st r hr) fun r => sem_finish o dest st r ht
  | e :: es, st0, ht0 => by
    rw [layerLoop_cons]
    refine StrictSem.bindQ o dest _ _ (sem_layerIter o dest e st0 ht0) (tmp_layerIter o dest e st0 ht0) ?_ fun r hr => ?_
    · rintro r ⟨out, st, rfl, hout⟩
      exact finish_fails dest st out hout
    match r, hr with
    | .error (out, st), hr => exact sem_finish o dest st out hr
    | .ok st, hr => exact sem_layerLoop o dest es st hr

/-- **success ⇒ no untolerated refusal, for the layer entry point**: if `UnpackLayer` returns success under ANY
    fault schedule, then no mutating system call was refused — by the injected faults or by the filesystem —
    other than the documented tolerances and the deferred removal of its own staging directory -/
theorem layer_ok_implies_no_untolerated_fault (o : Opts) (dest : Str) (es : List Entry) (w : World)
    (faults : Nat → Option Errno) (h : (runWL o dest faults 0 (unpackLayerP dest o es) w).1.1 = .ok) :
    (runWL o dest faults 0 (unpackLayerP dest o es) w).2 = false := by
  cases hb : (runWL o dest faults 0 (unpackLayerP dest o es) w).2 with
  | false => rfl
  | true =>
    have := sem_runWL o dest faults (unpackLayerP dest o es) 0 w (sem_layerLoop o dest es {} (Or.inl rfl)) hb
    exact absurd h this

/-- non-vacuity: a refused `mkdir` for the only entry of a layer makes the apply fail; without faults it succeeds -/
example :
    let e : Entry := { typ := .dir, name := b!"d", mode := 0o755 }
    let w : World := { fs := FS.empty.create [b!"x"] { kind := .dir, perm := 0o755, uid := 0, gid := 0, mtime := some 0 } }
    ((runWL {} b!"/x" (fun i => if i = 3 then some .ENOSPC else none) 0 (unpackLayerP b!"/x" {} [e]) w).1.1 ≠ .ok ∧
     (runWL {} b!"/x" (fun i => if i = 3 then some .ENOSPC else none) 0 (unpackLayerP b!"/x" {} [e]) w).2 = true) ∧
    ((runWL {} b!"/x" (fun _ => none) 0 (unpackLayerP b!"/x" {} [e]) w).1.1 = .ok ∧
     (runWL {} b!"/x" (fun _ => none) 0 (unpackLayerP b!"/x" {} [e]) w).2 = false) := by decide +kernel

end GA.C20
