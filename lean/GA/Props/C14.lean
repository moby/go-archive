import GA.M.Copy
/-
  C14 — copy follows the documented cp-style table (decision logic and renaming).
-/
namespace GA.C14
open GA GA.Copy

/-- **the regenerated decision function of PrepareArchiveCopy equals the documented table on all inputs** -/
theorem prepare_matches_table :
    ∃ f, Facts.prepareDecision? = some f ∧ ∀ a b c d, f a b c d = cpTable a b c d :=
  ⟨_, rfl, by decide⟩

theorem splitAtFirst_prefix (old : Str) : ∀ (s : Str), old.isPrefixOf s = true →
    splitAtFirst old s = some ([], s.drop old.length) := by
  intro s h
  cases s with
  | nil =>
    have : old = [] := by cases old <;> simp_all
    subst this; simp [splitAtFirst]
  | cons c cs => simp [splitAtFirst, h]

/-- `strings.Replace(s, old, new, 1)` on a string that starts with `old` rewrites exactly that leading occurrence -/
theorem replaceFirst_prefix (s old new : Str) (h : old.isPrefixOf s = true) :
    replaceFirst s old new = new ++ s.drop old.length := by
  simp [replaceFirst, splitAtFirst_prefix old s h]

/-- hence every later occurrence of the old base inside the name survives -/
theorem replace_renames_leading_only (old new rest : Str) :
    replaceFirst (old ++ rest) old new = new ++ rest := by
  rw [replaceFirst_prefix _ _ _ (by simp)]
  simp

/-- the walker's rebase (fix D12) touches nothing but a leading include element -/
theorem rebaseLeading_exact (inc repl rest : Str) :
    rebaseLeading (inc ++ slashStr ++ rest) inc repl = repl ++ slashStr ++ rest ∧
    rebaseLeading inc inc repl = repl := by
  constructor
  · unfold rebaseLeading
    have : hasPrefix (inc ++ slashStr ++ rest) (inc ++ slashStr) = true := by simp [hasPrefix]
    simp only [this, or_true, if_true]
    simp [slashStr]
  · simp [rebaseLeading]

theorem rebaseLeading_other (rel inc repl : Str) (h1 : rel ≠ inc)
    (h2 : hasPrefix rel (inc ++ slashStr) = false) : rebaseLeading rel inc repl = rel := by
  simp [rebaseLeading, h1, h2]

/-- D12 witness: the pinned `strings.Replace(rel, include, repl, 1)` rewrites the middle of a name -/
theorem pinned_rebase_rewrites_inside :
    replaceFirst b!"file.txt" b!"." b!"r" = b!"filertxt" ∧ rebaseLeading b!"file.txt" b!"." b!"r" = b!"file.txt" := by
  decide

/-- **the destination symlink chase issues at most 11 readlinks on any filesystem** (cycles included) -/
theorem chase_bounded (w : World) : ∀ (fuel cnt : Nat) (q : Str), fuel ≤ 12 →
    (chase w fuel cnt q).1 ≤ cnt + (fuel - 1) := by
  intro fuel cnt q
  fun_induction chase w fuel cnt q
  -- only a followed link goes on; the test on the iteration count there gives `fuel ≥ 1`
  case case3 ih => exact fun hle => Nat.le_trans (ih (by omega)) (by omega)
  -- everywhere else the count is handed back as it came
  all_goals exact fun _ => Nat.le_add_right _ _

theorem chase_at_most_11 (w : World) (p : Str) : (chase w 12 0 p).1 ≤ 11 := by
  have := chase_bounded w 12 0 p (by omega)
  omega

/-- non-vacuity: a self-referential link is chased 11 times and then refused -/
example :
    let fs := (FS.empty.create [b!"l"] { kind := .sym, perm := 0o777, uid := 0, gid := 0, mtime := none, target := b!"l" })
    chase { fs := fs } 12 0 b!"/l" = (11, none) := by decide

end GA.C14
