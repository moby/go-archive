import GA.Props.C10b
import GA.M.TreeApply
/-
  C04, the heart of it at the level of trees: the list `Changes` computes carries enough to turn the old
  tree into the new one under the sequential semantics of layer apply — a deletion removes the path and
  everything beneath it; any other entry carries the new tree's metadata for its path, merges onto an
  existing directory when it is itself a directory, and otherwise replaces whatever was there together with
  everything beneath.  Applied in any order that puts a directory before its contents (the order `Changes`
  produces, and the byte-wise path order `ExportChanges` sorts into), the result is the new tree: the same
  set of paths, and at each path the new metadata — exactly where an entry was exported, and up to what the
  comparison does not track (`differs`: a directory's own mtime and size, a file rewrite that keeps size and
  mtime second) where none was.
-/
namespace GA.TreeDiff
open GA

/-- what layer apply is expected to reproduce: everything the comparison looks at, times to the second, and
    for a directory neither its size nor its time -/
def Tracked (x y : Stat) : Prop :=
  x.mode = y.mode ∧ x.isDir = y.isDir ∧ x.uid = y.uid ∧ x.gid = y.gid ∧ x.rdev = y.rdev ∧ x.cap = y.cap ∧
  (x.isDir = false → x.size = y.size ∧ x.mtimeSec = y.mtimeSec)

def Eqv : Option Stat → Option Stat → Prop
  | none, none => True
  | some x, some y => Tracked x y
  | _, _ => False

theorem Tracked.refl (x : Stat) : Tracked x x := ⟨rfl, rfl, rfl, rfl, rfl, rfl, fun _ => ⟨rfl, rfl⟩⟩

theorem Tracked.trans {x y z : Stat} (h1 : Tracked x y) (h2 : Tracked y z) : Tracked x z := by
  obtain ⟨a1, a2, a3, a4, a5, a6, a7⟩ := h1
  obtain ⟨b1, b2, b3, b4, b5, b6, b7⟩ := h2
  have hy (hd : x.isDir = false) := b7 (a2 ▸ hd)
  exact ⟨a1.trans b1, a2.trans b2, a3.trans b3, a4.trans b4, a5.trans b5, a6.trans b6,
    fun hd => ⟨(a7 hd).1.trans (hy hd).1, (a7 hd).2.trans (hy hd).2⟩⟩

theorem Eqv.refl (a : Option Stat) : Eqv a a := by
  cases a with
  | none => trivial
  | some x => exact Tracked.refl x

theorem tracked_of_not_differs {o n : Stat} (ho : o.isDir = o.mode.testBit 31) (hn : n.isDir = n.mode.testBit 31)
    (h : differs o n = false) : Tracked o n := by
  unfold differs at h
  simp only [Bool.or_eq_false_iff, bne_eq_false_iff_eq, Bool.and_eq_false_iff, Bool.not_eq_eq_eq_not,
    Bool.not_false] at h
  obtain ⟨⟨⟨⟨⟨hm, hu⟩, hg⟩, hr⟩, ht⟩, hc⟩ := h
  refine ⟨hm, by rw [ho, hn, hm], hu, hg, hr, hc, fun hd => ?_⟩
  rcases ht with ht | ht
  · rw [hd] at ht; cases ht
  · refine ⟨ht.2, ?_⟩
    have := ht.1
    unfold sameFsTime at this
    simp only [Bool.or_eq_true, Bool.and_eq_true, beq_iff_eq] at this
    rcases this with h1 | h1 <;> exact h1.1

theorem view_eq_look (t : Info) {q : List Str} (h : q ≠ []) : view t q = (look t q).map Info.st := by
  unfold view
  rw [findIn_children t h]

theorem view_some {t : Info} {q : List Str} {x : Stat} (h : view t q = some x) :
    ∃ n, findIn t.children q = some n ∧ n.st = x := by
  simpa [view] using h

theorem view_none {t : Info} {q : List Str} (h : view t q = none) : findIn t.children q = none := by
  simpa [view] using h

theorem view_of_find {t : Info} {q : List Str} {n : Info} (h : findIn t.children q = some n) : view t q = some n.st := by
  unfold view; rw [h]; rfl

theorem view_prefix (t : Info) (hsh : t.Shape) {b p : List Str} (hb : b ≠ []) (hpre : b <+: p) {x : Stat}
    (h : view t p = some x) : ∃ y, view t b = some y ∧ (b ≠ p → y.isDir = true) := by
  obtain ⟨s, rfl⟩ := hpre
  cases s with
  | nil => exact ⟨x, by simpa using h, fun e => absurd (by simp) e⟩
  | cons c s =>
    rw [view_eq_look t (by simp [hb]), look_append] at h
    rw [view_eq_look t hb]
    cases hm : look t b with
    | none => simp [hm] at h
    | some m =>
      cases hc : findChild m.children c with
      | none => simp [hm, look, hc] at h
      | some n => exact ⟨m.st, rfl, fun _ => isDir_of_child (look_Shape hsh hm) hc⟩

theorem Eqv.some_right {a : Option Stat} {z : Stat} (h : Eqv a (some z)) : ∃ y, a = some y ∧ Tracked y z := by
  cases a with
  | none => exact h.elim
  | some y => exact ⟨y, rfl, h⟩

theorem applyOne_delete {nv v : View} {c : Change} (hk : c.kind = .delete) (q : List Str) :
    applyOne nv v c q = if c.path.isPrefixOf q then none else v q := by
  simp only [applyOne, hk]

theorem applyOne_absent {nv v : View} {c : Change} (hk : c.kind ≠ .delete) (hs : nv c.path = none) : applyOne nv v c = v := by
  unfold applyOne
  cases hk' : c.kind with
  | delete => exact absurd hk' hk
  | _ => simp only [hs]

theorem applyOne_put {nv v : View} {c : Change} {s : Stat} (hk : c.kind ≠ .delete) (hs : nv c.path = some s) (q : List Str) :
    applyOne nv v c q =
      if q = c.path then some s else if (s.isDir && isDirAt v c.path) || !c.path.isPrefixOf q then v q else none := by
  fun_cases applyOne nv v c
  case case1 hk' => exact absurd hk' hk
  case case2 hs' _ => exact nomatch hs.symm.trans hs'
  -- a directory onto a directory merges; anything else replaces what was there and all beneath it
  case case3 s' hs' h _ =>
    cases hs.symm.trans hs'
    simp only [h, Bool.true_or, if_true]
  case case4 s' hs' h _ =>
    cases hs.symm.trans hs'
    cases hp : c.path.isPrefixOf q <;> simp [h, hp]

theorem applyOne_other (nv v : View) (c : Change) (q : List Str) (h : ¬ c.path <+: q) : applyOne nv v c q = v q := by
  have hne : q ≠ c.path := fun e => h (e ▸ List.prefix_refl _)
  have hb : c.path.isPrefixOf q = false := by
    cases hh : c.path.isPrefixOf q with
    | false => rfl
    | true => exact absurd (List.isPrefixOf_iff_prefix.mp hh) h
  by_cases hk : c.kind = .delete
  · rw [applyOne_delete hk, hb]; rfl
  · cases hs : nv c.path with
    | none => rw [applyOne_absent hk hs]
    | some s => rw [applyOne_put hk hs, if_neg hne, hb]; simp

theorem applyOne_keeps_none (nv v : View) (c : Change) (q : List Str) (hq : v q = none) (hn : nv q = none) :
    applyOne nv v c q = none := by
  by_cases hk : c.kind = .delete
  · rw [applyOne_delete hk]
    split
    · rfl
    · exact hq
  · cases hs : nv c.path with
    | none => rw [applyOne_absent hk hs]; exact hq
    | some s =>
      rw [applyOne_put hk hs, if_neg (fun e => by rw [e, hs] at hn; cases hn)]
      split
      · exact hq
      · rfl

theorem foldl_keeps_none (nv : View) (q : List Str) (hn : nv q = none) : ∀ (L : List Change) (v : View), v q = none →
    (L.foldl (applyOne nv) v) q = none
  | [], _, h => h
  | c :: L, v, h => foldl_keeps_none nv q hn L _ (applyOne_keeps_none nv v c q h hn)

/-- the entry is of the kind the new tree asks for at its path: a deletion exactly where the new tree has
    nothing.  For such an entry the kinds play no part (`applyOne_at`, `applyOne_below`). -/
def Fits (nv : View) (c : Change) : Prop := c.kind = .delete ↔ nv c.path = none

theorem applyOne_at {nv : View} {c : Change} (h : Fits nv c) (v : View) : applyOne nv v c c.path = nv c.path := by
  by_cases hk : c.kind = .delete
  · rw [applyOne_delete hk, h.mp hk, List.isPrefixOf_iff_prefix.mpr (List.prefix_refl _)]; rfl
  · cases hs : nv c.path with
    | none => exact absurd (h.mpr hs) hk
    | some s => rw [applyOne_put hk hs, if_pos rfl]

theorem applyOne_below {nv : View} {c : Change} (h : Fits nv c) (v : View) {q : List Str} (hq : Above c.path q) :
    applyOne nv v c q = if isDirAt nv c.path && isDirAt v c.path then v q else none := by
  have hb : c.path.isPrefixOf q = true := List.isPrefixOf_iff_prefix.mpr hq.1
  by_cases hk : c.kind = .delete
  · rw [applyOne_delete hk, hb]; simp [isDirAt, h.mp hk]
  · cases hs : nv c.path with
    | none => exact absurd (h.mpr hs) hk
    | some s => rw [applyOne_put hk hs, if_neg (fun e => hq.2 e.symm), hb]; simp [isDirAt, hs]

theorem Above.trans {a b c : List Str} (h1 : Above a b) (h2 : Above b c) : Above a c :=
  ⟨h1.1.trans h2.1, fun e => h1.2 ((h1.1.eq_of_length (Nat.le_antisymm h1.1.length_le (e ▸ h2.1.length_le))))⟩

/-- every entry of `L` above `q` merges — a directory of the new tree onto what was a directory at the start — so
    none of them wipes what lies at `q` -/
def Open (nv v0 : View) (L : List Change) (q : List Str) : Prop :=
  ∀ c ∈ L, Above c.path q → isDirAt nv c.path = true ∧ isDirAt v0 c.path = true

open Classical in
/-- **the one invariant of the fold**: after a parent-first list of fitting entries a path that has an entry
    holds what the new tree has there; any other path holds what it held at the start if every entry above it
    merged a directory onto a directory, and nothing otherwise.  So the result depends on the list only through
    the set of its paths. -/
theorem foldl_applyOne (nv v0 : View) (L : List Change) : Ordered L → (∀ c ∈ L, Fits nv c) → ∀ (q : List Str),
    L.foldl (applyOne nv) v0 q =
      if ∃ c ∈ L, c.path = q then nv q else if Open nv v0 L q then v0 q else none := by
  induction L using snoc_induction with
  | nil => intro _ _ q; simp [Open]
  | snoc L c ih =>
    intro hord hfit q
    obtain ⟨hordL, -, hlast⟩ := List.pairwise_append.mp hord
    have ih := ih hordL (fun a ha => hfit a (List.mem_append_left _ ha))
    have hc := hfit c (by simp)
    have hopen : ∀ q, Open nv v0 (L ++ [c]) q ↔
        Open nv v0 L q ∧ (Above c.path q → isDirAt nv c.path = true ∧ isDirAt v0 c.path = true) := fun q =>
      ⟨fun h => ⟨fun a ha => h a (List.mem_append_left _ ha), h c (by simp)⟩,
       fun h a ha => (List.mem_append.mp ha).elim (h.1 a) (fun e => List.mem_singleton.mp e ▸ h.2)⟩
    rw [List.foldl_append, List.foldl_cons, List.foldl_nil]
    generalize L.foldl (applyOne nv) v0 = v at ih
    by_cases hpre : c.path <+: q
    · by_cases heq : c.path = q
      · rw [if_pos ⟨c, by simp, heq⟩, ← heq]
        exact applyOne_at hc v
      · have hab : Above c.path q := ⟨hpre, heq⟩
        have hno : ¬ ∃ a ∈ L ++ [c], a.path = q := by
          rintro ⟨a, ha, e⟩
          rcases List.mem_append.mp ha with ha | ha
          · exact hlast a ha c (List.mem_singleton_self c) (e ▸ hab)
          · exact heq (List.mem_singleton.mp ha ▸ e)
        have hq := ih q
        rw [if_neg (fun ⟨a, ha, e⟩ => hno ⟨a, List.mem_append_left _ ha, e⟩)] at hq
        rw [if_neg hno, applyOne_below hc v hab, hq]
        by_cases hL : Open nv v0 L q
        · -- what `c` finds at its own path: the new directory if it had an entry before, else what was there at the start
          have hv : (isDirAt nv c.path && isDirAt v c.path) = (isDirAt nv c.path && isDirAt v0 c.path) := by
            unfold isDirAt
            rw [ih c.path]
            by_cases hex : ∃ a ∈ L, a.path = c.path
            · obtain ⟨a, ha, e⟩ := hex
              obtain ⟨h1, h2⟩ := hL a ha (e ▸ hab)
              rw [if_pos ⟨a, ha, e⟩, ← e, ← isDirAt, ← isDirAt, h1, h2]
            · rw [if_neg hex, if_pos (show Open nv v0 L c.path from fun a ha hab' => hL a ha (hab'.trans hab))]
          rw [hv, if_pos hL]
          cases hb : isDirAt nv c.path && isDirAt v0 c.path
          · rw [if_neg (show ¬ Open nv v0 (L ++ [c]) q from fun h => by have := ((hopen q).mp h).2 hab; simp [this.1, this.2] at hb)]
            rfl
          · rw [if_pos (show Open nv v0 (L ++ [c]) q from (hopen q).mpr ⟨hL, fun _ => by simpa using hb⟩)]
            rfl
        · rw [if_neg hL, if_neg (show ¬ Open nv v0 (L ++ [c]) q from fun h => hL ((hopen q).mp h).1)]
          split <;> rfl
    · have hex : (∃ a ∈ L ++ [c], a.path = q) ↔ ∃ a ∈ L, a.path = q := by
        have : c.path ≠ q := fun e => hpre (e ▸ List.prefix_refl _)
        simp [or_and_right, exists_or, this]
      have hnab : ¬ Above c.path q := fun h => hpre h.1
      rw [applyOne_other _ _ _ _ hpre, ih q]
      simp only [hex, hopen q, hnab, false_imp_iff, and_true]

/-- the mode word carries the type: `isDir` is the directory bit of `mode` (os.ModeDir = 1<<31) -/
def Typed (t : Info) : Prop := ∀ p n, findIn t.children p = some n → n.st.isDir = n.st.mode.testBit 31

theorem differs_of_kind {o n : Stat} (ho : o.isDir = o.mode.testBit 31) (hn : n.isDir = n.mode.testBit 31)
    (h : o.isDir ≠ n.isDir) : differs o n = true := by
  have : o.mode ≠ n.mode := fun e => h (by rw [ho, hn, e])
  unfold differs
  simp [this]

/-- the first missing step on the way to a path the new tree does not have -/
theorem first_missing (nv : View) : ∀ (n : Nat) (p : List Str), p.length = n → p ≠ [] → nv p = none →
    ∃ a c, (a ++ [c]) <+: p ∧ nv (a ++ [c]) = none ∧ (a = [] ∨ ∃ y, nv a = some y) := by
  rintro _ p -
  induction p using snoc_induction with
  | nil => exact fun h => absurd rfl h
  | snoc q c ih =>
    intro _ hn
    by_cases hq0 : q = []
    · exact ⟨[], c, hq0 ▸ List.prefix_refl _, hq0 ▸ hn, Or.inl rfl⟩
    · cases hnq : nv q with
      | some y => exact ⟨q, c, List.prefix_refl _, hn, Or.inr ⟨y, hnq⟩⟩
      | none =>
        obtain ⟨a, c', hpre, hnone, hpar⟩ := ih hq0 hnq
        exact ⟨a, c', hpre.trans (List.prefix_append _ _), hnone, hpar⟩

theorem changes_fit (new old : Info) (hwf : new.WF) (hsh : new.Shape) {c : Change} (hc : c ∈ changes new old) :
    Fits (view new) c := by
  obtain ⟨p, k⟩ := c
  cases k with
  | delete => exact iff_of_true rfl (by rw [view, ((deletions_exact new old hwf hsh p).mp hc).1]; rfl)
  | add =>
    obtain ⟨n, hn⟩ := Option.isSome_iff_exists.mp ((additions_exact new old hwf hsh p).mp hc).1
    exact iff_of_false (fun h => nomatch h) (by rw [view_of_find hn]; exact fun h => nomatch h)
  | modify =>
    obtain ⟨n, _, hn, _⟩ := (modifications_exact new old hwf hsh p).mp hc
    exact iff_of_false (fun h => nomatch h) (by rw [view_of_find hn]; exact fun h => nomatch h)

theorem changes_keep (new old : Info) (hwf : new.WF) (hsh : new.Shape) {p : List Str} {n : Info}
    (hin : ∀ k, ({ path := p, kind := k } : Change) ∉ changes new old) (hn : findIn new.children p = some n) :
    ∃ o, findIn old.children p = some o ∧ differs o.st n.st = false := by
  cases ho : findIn old.children p with
  | none => exact absurd ((additions_exact new old hwf hsh p).mpr ⟨by rw [hn]; rfl, ho⟩) (hin _)
  | some o =>
    refine ⟨o, rfl, ?_⟩
    cases hd : differs o.st n.st with
    | false => rfl
    | true => exact absurd ((modifications_exact new old hwf hsh p).mpr ⟨n, o, hn, ho, Or.inl hd⟩) (hin _)

/-- a path that goes lies at or beneath an entry that leaves no directory: the whiteout at the first missing step,
    or the non-directory put in its way -/
theorem changes_cut (new old : Info) (hwf : new.WF) (hsh : new.Shape) (hsho : old.Shape) (htn : Typed new) (hto : Typed old)
    {p : List Str} (hp : p ≠ []) {o : Stat} (hnp : view new p = none) (hop : view old p = some o) :
    ∃ k ∈ changes new old, k.path <+: p ∧ isDirAt (view new) k.path = false := by
  obtain ⟨a, c, hpre, hmiss, hpar⟩ := first_missing (view new) p.length p rfl hp hnp
  obtain ⟨x, hx, -⟩ := view_prefix old hsho (by simp) hpre hop
  obtain ⟨xn, hfx, -⟩ := view_some hx
  have hdel : (a = [] ∨ ∃ pn, findIn new.children a = some pn ∧ pn.st.isDir = true) →
      ∃ k ∈ changes new old, k.path <+: p ∧ isDirAt (view new) k.path = false := fun hcond =>
    ⟨_, (deletions_exact new old hwf hsh (a ++ [c])).mpr
      ⟨view_none hmiss, by rw [hfx]; rfl, by rw [List.dropLast_concat]; exact hcond, by simp⟩, hpre, by simp [isDirAt, hmiss]⟩
  rcases hpar with ha0 | ⟨y, hy⟩
  · exact hdel (Or.inl ha0)
  · obtain ⟨yn, hfy, rfl⟩ := view_some hy
    cases hyd : yn.st.isDir with
    | true => exact hdel (Or.inr ⟨yn, hfy, hyd⟩)
    | false =>
      have hane : a ≠ [] := fun e => by rw [e] at hfy; cases hfy
      obtain ⟨oa, hoa, hoad⟩ := view_prefix old hsho hane (List.prefix_append a [c]) hx
      obtain ⟨oan, hfoa, rfl⟩ := view_some hoa
      have hd : differs oan.st yn.st = true :=
        differs_of_kind (hto a oan hfoa) (htn a yn hfy) (by rw [hoad (by simp), hyd]; exact fun e => nomatch e)
      exact ⟨_, (modifications_exact new old hwf hsh a).mpr ⟨yn, oan, hfy, hfoa, Or.inl hd⟩,
        (List.prefix_append a [c]).trans hpre, by simp [isDirAt, hy, hyd]⟩

/-- **applying the computed changes to the old tree gives the new tree** — for all pairs of trees, in every
    order that puts a directory before its contents -/
theorem apply_changes_step (new old : Info) (hwf : new.WF) (hsh : new.Shape) (hsho : old.Shape)
    (htn : Typed new) (hto : Typed old)
    (L : List Change) (hmem : ∀ c, c ∈ L ↔ c ∈ changes new old) (hord : Ordered L)
    (v0 : View) (h0 : ∀ q, q ≠ [] → Eqv (v0 q) (view old q))
    (p : List Str) (hp : p ≠ []) :
    Eqv ((L.foldl (applyOne (view new)) v0) p) (view new p) := by
  have hroot : ∀ c ∈ L, c.path ≠ [] := fun c hc e =>
    root_never_reported new old hwf c.kind (by have := (hmem c).mp hc; rwa [← e])
  rw [foldl_applyOne (view new) v0 L hord (fun c hc => changes_fit new old hwf hsh ((hmem c).mp hc)) p]
  split
  · exact Eqv.refl _
  rename_i hex
  cases hnp : view new p with
  | some n =>
    -- `p` stays: it is as it was, under directories of both trees
    obtain ⟨nn, hfn, rfl⟩ := view_some hnp
    obtain ⟨on, hfo, hdiff⟩ := changes_keep new old hwf hsh (fun k h => hex ⟨_, (hmem _).mpr h, rfl⟩) hfn
    have hop := view_of_find hfo
    rw [if_pos (show Open (view new) v0 L p from fun c hc hab => by
      obtain ⟨y, hy, hyd⟩ := view_prefix new hsh (hroot c hc) hab.1 hnp
      obtain ⟨z, hz, hzd⟩ := view_prefix old hsho (hroot c hc) hab.1 hop
      obtain ⟨z', hz', ht⟩ := (hz ▸ h0 _ (hroot c hc) : Eqv (v0 c.path) (some z)).some_right
      exact ⟨by simp [isDirAt, hy, hyd hab.2], by rw [isDirAt, hz']; exact ht.2.1.trans (hzd hab.2)⟩)]
    obtain ⟨y, hy, ht⟩ := (hop ▸ h0 p hp : Eqv (v0 p) (some on.st)).some_right
    exact hy ▸ ht.trans (tracked_of_not_differs (hto p on hfo) (htn p nn hfn) hdiff)
  | none =>
    split
    · rename_i hopen
      cases hop : view old p with
      | none => exact hop ▸ h0 p hp
      | some o =>
        obtain ⟨k, hk, hkp, hkd⟩ := changes_cut new old hwf hsh hsho htn hto hp hnp hop
        have hkL := (hmem k).mpr hk
        have := (hopen k hkL ⟨hkp, fun e => hex ⟨k, hkL, e⟩⟩).1
        rw [hkd] at this
        cases this
    · trivial

/-- **applying the computed changes to the old tree gives the new tree** — for all pairs of trees, in the
    order `Changes` produces them -/
theorem apply_changes_reproduces (new old : Info) (hwf : new.WF) (hsh : new.Shape) (hsho : old.Shape)
    (htn : Typed new) (hto : Typed old) (p : List Str) (hp : p ≠ []) :
    Eqv (((changes new old).foldl (applyOne (view new)) (view old)) p) (view new p) :=
  apply_changes_step new old hwf hsh hsho htn hto (changes new old) (fun _ => Iff.rfl)
    (ordered_main new hwf [] (some old) false) (view old) (fun _ _ => Eqv.refl _) p hp

/-- a list sorted by any order under which a path comes before everything beneath it is ordered parent-first
    (`ExportChanges` sorts by the byte order of the slash-joined path: `C04.parent_sorts_first`) -/
theorem ordered_of_sorted (le : List Str → List Str → Prop) (hle : ∀ a b, Above b a → ¬ le a b)
    (L : List Change) (hs : L.Pairwise (fun x y => le x.path y.path)) : Ordered L :=
  hs.imp (fun h hab => hle _ _ hab h)

/-- **histories**: for any sequence of snapshots, computing the changes from each to the next and applying them
    in turn to (a tree tracked-equal to) the first one yields after every step a tree tracked-equal to that
    step's snapshot — the same paths and, at each, the same type, permissions, ownership, device numbers,
    capability and (for non-directories) size and modification second -/
theorem apply_history (hgood : Info → Prop) (hg : ∀ t, hgood t → t.WF ∧ t.Shape ∧ Typed t) :
    ∀ (snaps : List Info) (s0 : Info) (v0 : View), hgood s0 → (∀ t ∈ snaps, hgood t) →
      (∀ q, q ≠ [] → Eqv (v0 q) (view s0 q)) →
      ∀ q, q ≠ [] →
        Eqv ((snaps.foldl (fun (st : View × Info) t => ((changes t st.2).foldl (applyOne (view t)) st.1, t)) (v0, s0)).1 q)
            (view ((snaps.foldl (fun (st : View × Info) t => ((changes t st.2).foldl (applyOne (view t)) st.1, t)) (v0, s0)).2) q)
  | [], s0, v0, _, _, h0 => h0
  | t :: rest, s0, v0, hs0, hall, h0 => by
    obtain ⟨hwf, hsh, hty⟩ := hg t (hall t (by simp))
    obtain ⟨-, hsh0, hty0⟩ := hg s0 hs0
    exact apply_history hgood hg rest t _ (hall t (by simp)) (fun x hx => hall x (by simp [hx]))
      (apply_changes_step t s0 hwf hsh hsh0 hty hty0 (changes t s0) (fun _ => Iff.rfl)
        (ordered_main t hwf [] (some s0) false) v0 h0)

theorem namesOf_eq : ∀ (l : List Info), namesOf l = l.map Info.name
  | [] => rfl
  | (.mk n _ _) :: cs => by simp [namesOf, Info.name, namesOf_eq cs]

theorem nodupB_nodup : ∀ (l : List Str), nodupB l = true → l.Nodup
  | [], _ => List.nodup_nil
  | x :: xs, h => by
    simp only [nodupB, Bool.and_eq_true, Bool.not_eq_true'] at h
    exact List.nodup_cons.mpr ⟨by simpa using h.1, nodupB_nodup xs h.2⟩

theorem listOkB_iff : ∀ {l : List Info}, listOkB l = true ↔ ∀ c ∈ l, c.okB = true
  | [] => by simp [listOkB]
  | c :: cs => by simp [listOkB, listOkB_iff (l := cs)]

theorem wf_shape_of {n : Str} {st : Stat} {ch : List Info} (hnd : nodupB (namesOf ch) = true)
    (hsh : (st.isDir || ch.isEmpty) = true) (hch : ∀ c ∈ ch, c.WF ∧ c.Shape) : (Info.mk n st ch).WF ∧ (Info.mk n st ch).Shape := by
  refine ⟨(WF_iff _).mpr ⟨(namesOf_eq ch ▸ nodupB_nodup _ hnd : (ch.map Info.name).Nodup), fun c hc => (hch c hc).1⟩,
    (Shape_iff _).mpr ⟨fun hd => ?_, fun c hc => (hch c hc).2⟩⟩
  simpa [Info.st, Info.children, show st.isDir = false from hd] using hsh

theorem okB_children (t : Info) (h : t.okB = true) : (∀ c ∈ t.children, c.okB = true) ∧ t.st.isDir = t.st.mode.testBit 31 := by
  cases t
  simp only [Info.okB, Bool.and_eq_true, beq_iff_eq, listOkB_iff] at h
  exact ⟨h.2, h.1.2⟩

theorem okB_node (t : Info) : t.okB = true → t.WF ∧ t.Shape := by
  induction t using Info.induction with
  | step n st ch ih =>
    intro h
    simp only [Info.okB, Bool.and_eq_true, listOkB_iff] at h
    exact wf_shape_of h.1.1.1 h.1.1.2 (fun c hc => ih c hc (h.2 c hc))

/-- the executable check the driver runs on the real trees implies the hypotheses of the theorems -/
theorem okB_sound (t : Info) (h : t.rootOkB = true) : t.WF ∧ t.Shape ∧ Typed t := by
  cases t with
  | mk n st ch =>
    simp only [Info.rootOkB, Bool.and_eq_true, listOkB_iff] at h
    obtain ⟨hwf, hsh⟩ := wf_shape_of (n := n) h.1.1 h.1.2 (fun c hc => okB_node c (h.2 c hc))
    refine ⟨hwf, hsh, fun p m hf => ?_⟩
    cases p with
    | nil => cases hf
    | cons c r =>
      rw [Info.children, findIn_cons] at hf
      obtain ⟨k, hk, hm⟩ := Option.bind_eq_some_iff.mp hf
      exact (okB_children m (look_induct (fun n hn => (okB_children n hn).1) r (h.2 k (findChild_mem hk)) hm)).2

/-- so: for the trees on which the driver's check passes (it is run on every pair of trees the library collects
    in the `changes` stream) applying the computed changes to the old tree gives the new one -/
theorem reproduces_of_okB (new old : Info) (hn : new.rootOkB = true) (ho : old.rootOkB = true) (p : List Str) (hp : p ≠ []) :
    Eqv (((changes new old).foldl (applyOne (view new)) (view old)) p) (view new p) :=
  apply_changes_reproduces new old (okB_sound new hn).1 (okB_sound new hn).2.1 (okB_sound old ho).2.1
    (okB_sound new hn).2.2 (okB_sound old ho).2.2 p hp

/-! ### concrete trees meet the hypotheses, and the fold really produces the new view -/

def tFile : Stat := { mode := 0o644, isDir := false, uid := 0, gid := 0, rdev := 0, size := 1, mtimeSec := 5, mtimeNsec := 0, cap := [] }
def tDir : Stat := { tFile with mode := 2 ^ 31 + 0o755, isDir := true }
/-- new: a/x, f (rewritten), d turned from a directory into a file;  old: a/y, f, g, d/z -/
def tNew : Info := .mk [] tDir [.mk b!"a" tDir [.mk b!"x" tFile []], .mk b!"f" { tFile with size := 2 } [], .mk b!"d" tFile []]
def tOld : Info := .mk [] tDir [.mk b!"a" tDir [.mk b!"y" tFile []], .mk b!"f" tFile [], .mk b!"g" tFile [],
  .mk b!"d" tDir [.mk b!"z" tFile []]]

example : tNew.rootOkB = true ∧ tOld.rootOkB = true := by decide

example : changes tNew tOld =
    [⟨[b!"a"], .modify⟩, ⟨[b!"a", b!"x"], .add⟩, ⟨[b!"a", b!"y"], .delete⟩, ⟨[b!"f"], .modify⟩, ⟨[b!"d"], .modify⟩,
     ⟨[b!"g"], .delete⟩] := by decide

/-- `d/z` is not reported deleted (the replacement of `d` by a file is recursive), and it is gone all the same -/
example : ((changes tNew tOld).foldl (applyOne (view tNew)) (view tOld)) [b!"a", b!"y"] = none ∧
    ((changes tNew tOld).foldl (applyOne (view tNew)) (view tOld)) [b!"a", b!"x"] = some tFile ∧
    ((changes tNew tOld).foldl (applyOne (view tNew)) (view tOld)) [b!"g"] = none ∧
    ((changes tNew tOld).foldl (applyOne (view tNew)) (view tOld)) [b!"d"] = some tFile ∧
    ((changes tNew tOld).foldl (applyOne (view tNew)) (view tOld)) [b!"d", b!"z"] = none ∧
    ((changes tNew tOld).foldl (applyOne (view tNew)) (view tOld)) [b!"f"] = some { tFile with size := 2 } ∧
    reproducesB tNew tOld = true := by
  decide

end GA.TreeDiff
