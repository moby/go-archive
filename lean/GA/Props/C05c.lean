import GA.Proofs.FrameUnpack
import GA.Props.C02b
/-
  C05, the frame clause: "every pre-existing path that is neither named by the archive nor beneath a
  replaced object is unchanged in content and metadata (apart from the mtime of a directory that gained or
  lost an entry)" — for the plain `Untar`, for every archive without symbolic-link entries, every option
  set of the default whiteout format, every prior symlink-free world, whatever the outcome.

  `touched dest es` is what the archive names: the path of every entry and the source of every hard-link
  entry.  A path is *covered* (`Cov`) when it is one of these or lies beneath one — the theorem claims
  nothing about covered paths (that is the other half of C05: `C05b`); it is an *ancestor* (`Anc`) when one
  of them lies at or beneath it.
-/
namespace GA

/-- the frame read at one name `q` of `fs0` that `T` does not cover, and at the object it names -/
theorem Framed.preexisting {T : List Path} {fs0 fs : FS} (h : Framed T fs0 fs) {q : Path} {i : Ino}
    (hq : fs0.lookup q = some i) (hnc : ¬ Cov T q) :
    fs.lookup q = some i ∧
    ((∀ p, fs0.lookup p = some i → ¬ Cov T p) →
      (∀ p, fs.lookup p = some i ↔ fs0.lookup p = some i) ∧
      (fs.inode i).map eraseM = (fs0.inode i).map eraseM ∧
      ((∀ p, fs0.lookup p = some i → ¬ Anc T p) → fs.inode i = fs0.inode i)) := by
  refine ⟨h.names_keep q i hq hnc, fun hall => ?_⟩
  have ho : OutI T fs0 i := ⟨⟨q, hq⟩, hall⟩
  exact ⟨fun p => ⟨h.no_capture i ho p, fun hp => h.names_keep p i hp (hall p hp)⟩, h.inode_out i ho,
    fun hanc => h.inode_quiet i ⟨ho, hanc⟩⟩

theorem Framed.new_name {T : List Path} {fs0 fs : FS} (h : Framed T fs0 fs) {q : Path} {i : Ino}
    (hq : fs.lookup q = some i) (h0 : fs0.lookup q = none) : CovAnc T q :=
  Classical.byContradiction fun hc => nomatch (h.absent_keep q h0 hc).symm.trans hq

end GA

namespace GA.C05
open GA

/-- **the frame of a plain extraction** -/
theorem untar_frame (dest : Str) (o : Opts) (es : List Entry) (w : World)
    (habs : isAbs dest = true) (hov : o.overlay = false) (hsym : ∀ e ∈ es, e.typ ≠ .sym)
    (hw : LW (pathComps (clean dest)) w) :
    Framed (touched (clean dest) es) w.fs ((untarP dest o es).run w).2.fs :=
  (FrSem.run _ _ w.fs hw.inv.fresh _ _ (untarP dest o es) w (lex_untar dest o es habs hov hsym)
    (fr_untar w.fs dest o es habs hov hsym) hw (Framed.refl _ _)).1

/-- what it says about one pre-existing path `q` that the archive neither names nor has beneath a named
    path: `q` still names the same object; if that object has no covered second name (no hard link to a
    named path) it has exactly the names it had, and its record — kind, mode, owner, group, content, link
    target, device numbers, extended attributes — is what it was, the modification time included unless `q`
    is a directory on the way to a named path -/
theorem untar_preexisting_untouched (dest : Str) (o : Opts) (es : List Entry) (w : World)
    (habs : isAbs dest = true) (hov : o.overlay = false) (hsym : ∀ e ∈ es, e.typ ≠ .sym)
    (hw : LW (pathComps (clean dest)) w) (q : Path) (i : Ino)
    (hq : w.fs.lookup q = some i) (hnc : ¬ Cov (touched (clean dest) es) q) :
    let fs' := ((untarP dest o es).run w).2.fs
    fs'.lookup q = some i ∧
    ((∀ p, w.fs.lookup p = some i → ¬ Cov (touched (clean dest) es) p) →
      (∀ p, fs'.lookup p = some i ↔ w.fs.lookup p = some i) ∧
      (fs'.inode i).map eraseM = (w.fs.inode i).map eraseM ∧
      ((∀ p, w.fs.lookup p = some i → ¬ Anc (touched (clean dest) es) p) → fs'.inode i = w.fs.inode i)) :=
  (untar_frame dest o es w habs hov hsym hw).preexisting hq hnc

/-- **nothing appears out of nowhere**: a name that exists after the extraction and did not exist before is a
    path the archive names, lies beneath one, or is a directory on the way to one (an implied parent) — no
    stray file, no temporary left behind, whatever the outcome -/
theorem untar_creates_only_named (dest : Str) (o : Opts) (es : List Entry) (w : World)
    (habs : isAbs dest = true) (hov : o.overlay = false) (hsym : ∀ e ∈ es, e.typ ≠ .sym)
    (hw : LW (pathComps (clean dest)) w) (q : Path) (i : Ino)
    (hq : ((untarP dest o es).run w).2.fs.lookup q = some i) (h0 : w.fs.lookup q = none) :
    CovAnc (touched (clean dest) es) q :=
  (untar_frame dest o es w habs hov hsym hw).new_name hq h0

/-- an implied parent that already existed keeps its mode, owner and attributes: a directory on the way to
    a named path is changed in nothing but its modification time -/
theorem untar_existing_parent_kept (dest : Str) (o : Opts) (es : List Entry) (w : World)
    (habs : isAbs dest = true) (hov : o.overlay = false) (hsym : ∀ e ∈ es, e.typ ≠ .sym)
    (hw : LW (pathComps (clean dest)) w) (q : Path) (i : Ino) (n : Inode)
    (hq : w.fs.lookup q = some i) (hn : w.fs.inode i = some n) (hnc : ¬ Cov (touched (clean dest) es) q)
    (hone : ∀ p, w.fs.lookup p = some i → p = q) :
    ∃ n', ((untarP dest o es).run w).2.fs.inode i = some n' ∧ n' = { n with mtime := n'.mtime } := by
  have := ((untar_frame dest o es w habs hov hsym hw).sole hq hone hnc).2.2.1
  rw [hn] at this
  cases hi : ((untarP dest o es).run w).2.fs.inode i with
  | none => rw [hi] at this; simp at this
  | some n' =>
    rw [hi] at this
    simp only [Option.map_some, Option.some.injEq, eraseM] at this
    refine ⟨n', rfl, ?_⟩
    cases n; cases n'
    simp only [Inode.mk.injEq] at this ⊢
    simp [this]

/-! ### non-vacuity: a destination with a file in it, and an archive that names something else -/

def exFS2 : FS :=
  { names := [([], 0), ([b!"w"], 1), ([b!"w", b!"dest"], 2), ([b!"w", b!"dest", b!"keep"], 3)],
    inode := fun j => if j ≤ 2 then some C02.exDir else if j = 3 then some { C02.exDir with kind := .reg, data := b!"s" } else none,
    next := 4 }

theorem exFS2_LW : LW (pathComps (clean b!"/w/dest")) ({ fs := exFS2 } : World) :=
  LW.of_lwB (by decide)

def exArchive : List Entry := [{ name := b!"new/x", typ := .reg, body := b!"hello", size := 5 }]

/-- the archive names `/w/dest/new/x`; the pre-existing `/w/dest/keep` is neither covered nor on the way -/
example : touched (clean b!"/w/dest") exArchive = [[b!"w", b!"dest", b!"new", b!"x"]] ∧
    ¬ Cov (touched (clean b!"/w/dest") exArchive) [b!"w", b!"dest", b!"keep"] ∧
    ¬ Anc (touched (clean b!"/w/dest") exArchive) [b!"w", b!"dest", b!"keep"] ∧
    Anc (touched (clean b!"/w/dest") exArchive) [b!"w", b!"dest"] := by
  decide

/-- so the theorem applies to it: after the extraction `/w/dest/keep` is the same file with the same bytes -/
example : (((untarP b!"/w/dest" {} exArchive).run { fs := exFS2 }).2.fs.get [b!"w", b!"dest", b!"keep"]) =
    some { C02.exDir with kind := .reg, data := b!"s" } := by
  have hq : exFS2.lookup [b!"w", b!"dest", b!"keep"] = some 3 := by decide
  have hone : ∀ p, exFS2.lookup p = some 3 → p = [b!"w", b!"dest", b!"keep"] := by
    intro p hp
    have hm := mem_names_of_lookup hp
    simp [exFS2] at hm
    exact hm
  have hnc : ∀ p, exFS2.lookup p = some 3 → ¬ Cov (touched (clean b!"/w/dest") exArchive) p := by
    intro p hp
    rw [hone p hp]
    decide
  have hna : ∀ p, exFS2.lookup p = some 3 → ¬ Anc (touched (clean b!"/w/dest") exArchive) p := by
    intro p hp
    rw [hone p hp]
    decide
  have h := untar_preexisting_untouched b!"/w/dest" {} exArchive { fs := exFS2 } (by decide) rfl
    (by intro e he; simp [exArchive] at he; subst he; simp) exFS2_LW _ 3 hq (hnc _ hq)
  simp only at h
  rw [get_def, h.1]
  simp only [Option.bind_some]
  rw [(h.2 hnc).2.2 hna]
  simp [exFS2]

end GA.C05
