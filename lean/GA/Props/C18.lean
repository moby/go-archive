import GA.M.Pipe
import GA.Generated.Facts
/-
  C18 — independent operations are race-free and do not influence each other (shared state and the
  pool protocol).  Partial: data-race freedom of the real memory accesses is the race detector's
  to observe (the `race` stream, built with -race).
-/
namespace GA.C18
open GA GA.Pipe

/-- **the package-level variables are exactly these** (regenerated): two pools, error values,
    time bounds, magic tables, the reversible-flag table, the noattr sentinel.  Anything new fails
    this obligation and has to be classified. -/
theorem shared_state :
    Facts.packageVars =
      [".:ErrCannotCopyDir", ".:ErrDirNotExists", ".:ErrInvalidCopySource", ".:ErrNotDirectory", ".:copyPool",
       ".:maxTime", ".:minTime", ".:noattr", "compression:bufioReader32KPool", "compression:bzip2Magic",
       "compression:gzipMagic", "compression:xzMagic", "compression:zstdMagic",
       "internal/unshare:reversibleSetnsFlags"] := rfl

/-- a schedule respects the protocol when no event was refused -/
def Legal (own : Nat → Owner) (sched : List PoolEv) : Prop := (poolRun own sched).isSome

/-- **linear ownership**: in every legal schedule a buffer is used only by the operation that holds it -/
theorem use_only_by_owner (own : Nat → Owner) (o b : Nat) (rest : List PoolEv)
    (h : Legal own (.use o b :: rest)) : own b = .op o := by
  by_cases hq : own b = .op o
  · exact hq
  · simp [Legal, poolRun, poolStep, hq] at h

/-- **no operation can get a buffer another operation still holds** -/
theorem get_only_from_pool (own : Nat → Owner) (o b : Nat) (rest : List PoolEv)
    (h : Legal own (.get o b :: rest)) : own b = .pool := by
  by_cases hq : own b = .pool
  · exact hq
  · simp [Legal, poolRun, poolStep, hq] at h

theorem uses_noop (ow : Nat → Owner) (o b : Nat) (hb : ow b = .op o) (es : List PoolEv) :
    ∀ n, poolRun ow (List.replicate n (.use o b) ++ es) = poolRun ow es
  | 0 => rfl
  | n+1 => by
    simp only [List.replicate, List.cons_append, poolRun, poolStep, hb, if_true]
    exact uses_noop ow o b hb es n

/-- one operation following Get; use*; Put on a buffer the pool owns is legal and gives it back -/
theorem op_legal (own : Nat → Owner) (o b : Nat) (uses : Nat) (h : own b = .pool) :
    ∃ own', poolRun own (opEvents o b uses) = some own' ∧ own' b = .pool ∧ ∀ x, x ≠ b → own' x = own x := by
  unfold opEvents
  simp only [List.cons_append, List.nil_append, poolRun, poolStep, h, if_true]
  rw [uses_noop _ o b (by simp)]
  simp only [poolRun, poolStep, if_true]
  exact ⟨_, rfl, by simp, fun x hx => by simp [hx]⟩

/-- **use after put is refused**: the model of `bufferedReader` never touches the buffer after EOF
    because such a schedule is not legal -/
theorem use_after_put_illegal (own : Nat → Owner) (o b : Nat) (h : own b = .op o) :
    poolRun own [.put o b, .use o b] = none := by
  simp [poolRun, poolStep, h]

/-- a double put is refused as well -/
theorem double_put_illegal (own : Nat → Owner) (o b : Nat) (h : own b = .op o) :
    poolRun own [.put o b, .put o b] = none := by
  simp [poolRun, poolStep, h]

/-- the pool events of one control-flow path of a function, as operation 0 on buffer 0; an event the
    extractor could not classify maps to a use by a stranger, which no legal schedule contains -/
def evOf : String → PoolEv
  | "get" => .get 0 0
  | "use" => .use 0 0
  | "put" => .put 0 0
  | _ => .use 1 0

/-- a path keeps the protocol: starting with the buffer in the pool the schedule is legal and ends with the
    buffer back in the pool — taken once, used only while held, given back exactly once -/
def pathOK (p : List String) : Bool :=
  match poolRun (fun _ => .pool) (p.map evOf) with
  | some own => decide (own 0 = .pool) && p.contains "get"
  | none => false

/-- **every control-flow path of every function that takes a buffer from a package-level pool keeps the
    protocol** (regenerated from copy.go: `copyWithBuffer`, deferred calls included), and there is such a
    function -/
theorem pool_paths_legal :
    Facts.poolPaths ≠ [] ∧ ∀ f ∈ Facts.poolPaths, f.2 ≠ [] ∧ ∀ p ∈ f.2, pathOK p = true := by decide

/-- a path that gives the buffer back twice (an explicit Put on the error branch under a deferred Put) is
    refused, as is one that returns without giving it back -/
example : pathOK ["get", "use", "put", "put"] = false ∧ pathOK ["get", "use"] = false ∧
    pathOK ["get", "put", "use"] = false := by decide

end GA.C18
