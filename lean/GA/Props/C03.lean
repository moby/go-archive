import GA.Props.C09
import GA.Props.C05
/-
  C03 — tar then untar reproduces the tree (the per-entry laws that are proved; the end-to-end
  statement `untar ∘ tar = id` over whole trees is checked on the real code by the roundtrip-tar
  stream and is NOT proved — see DESIGN "C03").
   * what is archived: the header carries type, 12 mode bits, owner, whole-second mtime, size, device
     numbers, link target and capability of the lstat'ed object;
   * how it is restored: owner first, then attributes, then mode, then times — an order the kernel
     model makes load-bearing (chown clears set-id bits and capabilities of non-directories);
   * every hard-link entry names an earlier non-link entry (C09), so its `link(2)` target exists;
   * times inside the representable range are restored unchanged (C05 clamp).
-/
namespace GA.C03
open GA

/-- **what is archived** -/
theorem header_carries_metadata (name : Str) (s : StatInfo) (link : Str) (capR : Res) :
    (buildHeader name s link capR).typ = typOfKind s.kind ∧ (buildHeader name s link capR).mode = s.perm ∧
    (buildHeader name s link capR).uid = s.uid ∧ (buildHeader name s link capR).gid = s.gid ∧
    (buildHeader name s link capR).mtime = s.mtime.getD implicitT ∧ (buildHeader name s link capR).linkname = link ∧
    (s.kind = .reg → (buildHeader name s link capR).size = s.size) ∧
    (s.kind ≠ .reg → (buildHeader name s link capR).size = 0) ∧
    ((s.kind = .chr ∨ s.kind = .blk) →
      (buildHeader name s link capR).devmajor = s.rdev.1 ∧ (buildHeader name s link capR).devminor = s.rdev.2) := by
  refine ⟨rfl, rfl, rfl, rfl, rfl, rfl, ?_, ?_, ?_⟩
  · intro h; simp [buildHeader, h]
  · intro h; cases hk : s.kind <;> simp_all [buildHeader]
  · rintro (h | h) <;> simp [buildHeader, h]

/-- the capability attribute travels as a SCHILY.xattr record; revision 3 is rewritten to revision 2 -/
theorem capability_archived (name : Str) (s : StatInfo) (link : Str) (c : List UInt8) :
    (buildHeader name s link (.data c)).xattrs = [(capKey, capForHeader c)] := rfl

theorem cap_rev2_unchanged (c : List UInt8) (h : c.getD 3 0 ≠ 3) : capForHeader c = c := by
  unfold capForHeader; rw [if_neg h]

theorem cap_rev3_becomes_rev2 :
    capForHeader [1, 0, 0, 3, 5, 0, 0, 0, 0, 0, 0, 0, 0, 0, 0, 0, 0, 0, 0, 0, 232, 3, 0, 0] =
      [1, 0, 0, 2, 5, 0, 0, 0, 0, 0, 0, 0, 0, 0, 0, 0, 0, 0, 0, 0] := by decide

/-- the calls issued when every call succeeds -/
def okTrace {α : Type} : Nat → Prog α → List Sys
  | 0, _ => []
  | _, .ret _ => []
  | n+1, .call s k => s :: okTrace n (k .ok)

/-- **how a regular file's metadata is restored**: owner, then mode, then times — in this order -/
theorem restore_order (path : Str) (e : Entry) (o : Opts) (ht : e.typ = .reg) (hx : e.xattrs = [])
    (hl : o.noLchown = false) :
    okTrace 10 (applyMetaP path e o) =
      [.chown path (o.chownOpts.getD (e.uid, e.gid)).1 (o.chownOpts.getD (e.uid, e.gid)).2 false,
       .chmod path e.mode, .utimes path (some (boundTime e.mtime)) true] := by
  simp [applyMetaP, hl, hx, ht, setXattrsP, okTrace, bind, Prog.bind, sys, pure, isErr]

/-- with one capability record: owner, attribute, mode, times -/
theorem restore_order_with_cap (path : Str) (e : Entry) (o : Opts) (v : List UInt8) (ht : e.typ = .reg)
    (hx : e.xattrs = [(capKey, v)]) (hl : o.noLchown = false) :
    okTrace 10 (applyMetaP path e o) =
      [.chown path (o.chownOpts.getD (e.uid, e.gid)).1 (o.chownOpts.getD (e.uid, e.gid)).2 false,
       .setxattr path capKey v false,
       .chmod path e.mode, .utimes path (some (boundTime e.mtime)) true] := by
  simp [applyMetaP, hl, hx, ht, setXattrsP, okTrace, bind, Prog.bind, sys, pure, isErr, xattrTolerated]

/-- **why the order matters** (kernel rule in K): chown on a non-directory clears the set-uid bit, the
    set-gid bit of group-executable files, and security.capability — so mode and capability must be
    set afterwards -/
theorem chown_clears (n : Inode) (u g : Nat) (hk : n.kind ≠ .dir) :
    (chownInode n u g).perm &&& 0o4000 = 0 ∧
    (∀ v, (capKey, v) ∉ (chownInode n u g).xattrs) := by
  have hk' : (n.kind == Kind.dir) = false := by simpa using hk
  unfold chownInode
  simp only [hk', Bool.false_eq_true, if_false]
  constructor
  · split
    · rw [Nat.and_assoc, Nat.and_assoc]; simp
    · rw [Nat.and_assoc]; simp
  · intro v hv
    simp [dropCap] at hv

/-- chmod after chown gives exactly the archived mode, set-id bits included -/
theorem chmod_after_chown_restores (n : Inode) (u g m : Nat) :
    ({ chownInode n u g with perm := m &&& 0o7777 } : Inode).perm = m &&& 0o7777 := rfl

/-- a mode with the set-uid bit does not survive the opposite order -/
theorem chmod_before_chown_loses_setuid :
    (chownInode { kind := .reg, perm := 0o4755, uid := 0, gid := 0, mtime := none } 1 1).perm = 0o755 := by decide

/-- **hard links**: every link entry of a produced archive names an earlier non-link entry (C09),
    restated here because the round trip depends on it -/
theorem hardlinks_follow_targets (src : Str) (o : PackOpts) (w : World) (hov : o.overlay = false) :
    let es := ((tarP src o).run w).1
    ∀ (i : Nat) (e : Entry), es[i]? = some e → e.typ = .link →
      ∃ j t, j < i ∧ es[j]? = some t ∧ t.name = e.linkname ∧ t.typ ≠ .link :=
  (C09.tar_self_consistent src o w hov).2

/-- times inside the representable range come back unchanged -/
theorem mtime_restored (t : Int) (h1 : 0 ≤ t) (h2 : t ≤ 9223372036) : boundTime t = t := C05.clamp_identity t h1 h2

/-- the order of the metadata phase is the code's: `createTarFile` asks for the owner first, then the
    extended attributes, then the mode, then the times (regenerated from its source on every run) — the order
    `applyMetaP` follows and `restore_order` needs: the chown clears set-id bits and capabilities, the calls
    after it put them back -/
theorem meta_order_is_generated : Facts.createMetaOrder = ["chown", "xattr", "chmod", "times"] := by decide

end GA.C03
