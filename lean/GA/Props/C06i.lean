import GA.Proofs.LayerEntry
import GA.Props.C06c
/-
  C06, hard links in whole layers ("all other entries behave as in plain extraction"): for every layer
  `pre ++ e :: post` without symbolic-link entries: if `ApplyLayer` reports success, `e` is a hard-link entry whose
  source is not in the staging area, whose name is neither reserved, a whiteout nor the destination itself, and
  nothing after `e` names the link's path or the link's source (or a path above either, or a whiteout for either),
  then afterwards the two paths name one and the same object.
-/
namespace GA.C06
open GA

theorem layer_link_shares (dest : Str) (o : Opts) (pre post : List Entry) (e : Entry) (um : Nat) (w : World)
    (habs : isAbs dest = true)
    (hsym : ∀ x ∈ pre ++ e :: post, x.typ ≠ .sym)
    (hw : LW (pathComps (clean dest)) w)
    (hlink : e.typ = .link)
    (hnst : hasPrefix (clean e.linkname) whLinkDir = false)
    (hmeta : hasPrefix (clean e.name) whMetaPrefix = false)
    (hnwh : hasPrefix (base (join (clean dest) (clean e.name))) whPrefix = false)
    (hne : pathComps (join (clean dest) (clean e.name)) ≠ pathComps (clean dest))
    (hcov : ¬ Cov (touchedL (clean dest) post) (pathComps (join (clean dest) (clean e.name))))
    (hcovS : ¬ Cov (touchedL (clean dest) post) (pathComps (join (clean dest) e.linkname)))
    (hok : ((applyLayerP dest o (pre ++ e :: post) um).run w).1.1 = .ok) :
    ∃ i,
      ((applyLayerP dest o (pre ++ e :: post) um).run w).2.fs.lookup (pathComps (join (clean dest) (clean e.name))) = some i ∧
      ((applyLayerP dest o (pre ++ e :: post) um).run w).2.fs.lookup (pathComps (join (clean dest) e.linkname)) = some i := by
  have hd : CleanAbs (clean dest) := clean_cleanAbs dest habs
  obtain ⟨s1, w1, s2, w2, s3, w3, c1, hit, _, _, c3, hF, _, hfs⟩ := applyLayer_split dest o pre post e um w habs hsym hw hok
  obtain ⟨_, i, hl2, hs2⟩ := iterL_link_post _ (clean dest) o hd rfl e s1 w1 c1.lw hlink hnst hmeta hnwh hne s2 w2 hit
  rw [hfs]
  exact ⟨i,
    layerEnd_name_kept _ (clean dest) o hd s3 w3 c3.lw c3.lex c3.fr _ i (hF.names_keep _ i hl2 hcov)
      (fun h => hcov (cov_mono (tmp_mem_touchedL _ _) h)),
    layerEnd_name_kept _ (clean dest) o hd s3 w3 c3.lw c3.lex c3.fr _ i (hF.names_keep _ i hs2 hcovS)
      (fun h => hcovS (cov_mono (tmp_mem_touchedL _ _) h))⟩

/-! ### non-vacuity: a file and a hard link to it -/

def exLF : Entry := { name := b!"a", typ := .reg, mode := 0o644, body := b!"1", size := 1 }
def exLL : Entry := { name := b!"b", typ := .link, linkname := b!"a" }

theorem exLL_ok : ((applyLayerP b!"/w/dest" {} ([exLF] ++ exLL :: []) 0o022).run { fs := C05.exFS2 }).1.1 = .ok := by decide +kernel

example : ∃ i, ((applyLayerP b!"/w/dest" {} ([exLF] ++ exLL :: []) 0o022).run { fs := C05.exFS2 }).2.fs.lookup [b!"w", b!"dest", b!"b"] = some i ∧
    ((applyLayerP b!"/w/dest" {} ([exLF] ++ exLL :: []) 0o022).run { fs := C05.exFS2 }).2.fs.lookup [b!"w", b!"dest", b!"a"] = some i := by
  have hP : pathComps (join (clean b!"/w/dest") (clean exLL.name)) = [b!"w", b!"dest", b!"b"] := by decide
  have hS : pathComps (join (clean b!"/w/dest") exLL.linkname) = [b!"w", b!"dest", b!"a"] := by decide
  obtain ⟨i, h1, h2⟩ := layer_link_shares b!"/w/dest" {} [exLF] [] exLL 0o022 { fs := C05.exFS2 } (by decide)
    (by intro x hx; simp [exLF, exLL] at hx; rcases hx with rfl | rfl <;> simp)
    C05.exFS2_LW rfl (by decide) (by decide) (by decide) (by rw [hP]; decide)
    (by decide) (by decide)
    exLL_ok
  rw [hP] at h1; rw [hS] at h2
  exact ⟨i, h1, h2⟩

end GA.C06
