import GA.Proofs.EntryLink
/-
  What `user.MkdirAllAndChown(path, mode, uid, gid, WithOnlyNew)` leaves on the directories it made: every
  path it hands to `setPermissions` ends with the mode's permission bits and, when an owner is given, that
  owner (`mkdirAllAndChown_post`, in `Has mode owner`) — whatever the later `setPermissions` calls on the other
  paths do (`has_setPermissions`, `setAll_post`).
-/
namespace GA

/-- the part of a directory's metadata that `setPermissions` establishes -/
def ModeOwner (mode : Nat) (owner : Option (Nat × Nat)) (n : Inode) : Prop :=
  n.perm &&& 0o777 = mode &&& 0o777 ∧ ∀ u g, owner = some (u, g) → n.uid = u ∧ n.gid = g

def Has (mode : Nat) (owner : Option (Nat × Nat)) (j : Ino) (w : World) : Prop :=
  ∃ n, w.fs.inode j = some n ∧ ModeOwner mode owner n

theorem and777_chmod (m : Nat) : ((m &&& 0o777) &&& 0o7777) &&& 0o777 = m &&& 0o777 := by
  rw [Nat.and_assoc, Nat.and_assoc]
  rfl

theorem chownInode_perm777 (n : Inode) (u g : Nat) : (chownInode n u g).perm &&& 0o777 = n.perm &&& 0o777 := by
  unfold chownInode
  split
  · rfl
  · simp only
    split
    · rw [Nat.and_assoc, Nat.and_assoc]; rfl
    · rw [Nat.and_assoc]; rfl

theorem Has.mod {mode : Nat} {owner : Option (Nat × Nat)} {j : Ino} {w : World} (h : Has mode owner j w) {path : Str}
    {s : Sys} {f : Inode → Inode} (hs : ModBy path s f) (hf : ∀ n, ModeOwner mode owner n → ModeOwner mode owner (f n)) :
    Has mode owner j (step w s).2 := by
  rcases hs.effect w with ⟨e, he⟩ | ⟨_, _, i, _, _, he⟩ <;> rw [he]
  · exact h
  · obtain ⟨n, hn, hq⟩ := h
    by_cases hji : j = i
    · subst hji
      exact ⟨f n, inode_modInode_self _ _ _ _ hn, hf n hq⟩
    · exact ⟨n, by simp only; rw [inode_modInode_ne _ _ _ _ hji]; exact hn, hq⟩

/-- `setPermissions(p')` on any path keeps "`j` carries mode and owner": it sets the same bits and the same owner -/
theorem has_setPermissions (mode : Nat) (owner : Option (Nat × Nat)) (p' : Str) (j : Ino) (w : World)
    (h : Has mode owner j w) : Has mode owner j ((setPermissionsP p' mode owner).run w).2 := by
  refine Prog.Calls.triple (I := Has mode owner j) (fun s hs w h => ?_) _ (calls_setPermissions p' mode owner) w h
  cases hs with
  | stat => rw [stat_world]; exact h
  | chmod => exact h.mod (.chmod _) (fun n hn => ⟨and777_chmod mode, hn.2⟩)
  | chown ho =>
    refine h.mod (.chown _ _ true) (fun n hn => ⟨(chownInode_perm777 n _ _).trans hn.1, fun u' g' he => ?_⟩)
    cases ho.symm.trans he
    exact (chownInode_keeps n _ _).2.2

theorem keeps_setPermissions (p : Str) (mode : Nat) (owner : Option (Nat × Nat)) : KeepsNames (setPermissionsP p mode owner) :=
  KeepsNames.of_calls (fun _ h w q => match h with
    | .stat => by rw [stat_world]
    | .chmod => (ModBy.chmod _).lookup_kept w q
    | .chown _ => (ModBy.chown _ _ true).lookup_kept w q) _ (calls_setPermissions p mode owner)

theorem statRes_err {w : World} {p : Str} {fl : Bool} (h : ∀ s, statRes w p fl ≠ .stat s) : isErr (statRes w p fl) = true := by
  revert h
  fun_cases statRes w p fl
  case case4 => exact fun h => absurd rfl (h _)
  all_goals exact fun _ => rfl

theorem setPermissions_triple (dp : Path) (mode : Nat) (owner : Option (Nat × Nat)) (p : Str) (hp : LexArg dp p) :
    Triple (LW dp) (setPermissionsP p mode owner) (fun r w' => isErr r = false → Obj dp p (ModeOwner mode owner) w') := by
  unfold setPermissionsP
  refine Triple.bind (Q := fun r w' => LW dp w' ∧ r = (step w' (.stat p)).1) _ _
    (Triple.sys _ (fun w hw => by rw [stat_world]; exact ⟨hw, rfl⟩)) (fun r => ?_)
  split
  · rename_i s
    -- what `stat` said is what the inode holds
    refine Triple.conseq (P := Obj dp p (fun n => s.perm = n.perm ∧ s.uid = n.uid ∧ s.gid = n.gid)) _ ?_
      (fun w ⟨hw, hs⟩ => by
        obtain ⟨i, n, hl, hi, rfl⟩ := stat_obj dp w hw p hp true s hs.symm
        exact ⟨hw, i, n, hl, hi, rfl, rfl, rfl⟩) (fun _ _ h => h)
    refine Triple.bind (Q := fun c w' => isErr c = false →
      Obj dp p (fun n => n.perm &&& 0o777 = mode &&& 0o777 ∧ s.uid = n.uid ∧ s.gid = n.gid) w') _ _ ?_ (fun c => ?_)
    · refine Triple.ite (fun _ => Triple.conseq _ (mod_effect dp p hp (.chmod _) _) (fun _ h => h)
        (fun c w' hq hc => (hq.2 hc).mono ?_)) (fun heq => Triple.pure _ (fun w h _ => h.mono ?_))
      · rintro n' ⟨n, hn, rfl⟩
        exact ⟨and777_chmod mode, hn.2⟩
      · exact fun n hn => ⟨by rw [← hn.1]; exact Classical.not_not.mp heq, hn.2⟩
    · refine Triple.ite (fun hc => Triple.pure _ (fun _ _ h => by rw [hc] at h; cases h)) (fun hc => ?_)
      refine Triple.conseq (P := Obj dp p (fun n => n.perm &&& 0o777 = mode &&& 0o777 ∧ s.uid = n.uid ∧ s.gid = n.gid))
        _ ?_ (fun w h => h (by simpa using hc)) (fun _ _ h => h)
      split
      · exact Triple.pure _ (fun w h _ => h.mono (fun n hn => ⟨hn.1, fun u g he => by cases he⟩))
      · rename_i u g
        refine Triple.ite (fun hsame => Triple.pure _ (fun w h _ => h.mono (fun n hn => ⟨hn.1, fun u' g' he => ?_⟩)))
          (fun _ => Triple.conseq _ (mod_effect dp p hp (.chown u g true) _) (fun _ h => h)
            (fun c w' hq hc => (hq.2 hc).mono ?_))
        · cases he
          exact ⟨hn.2.1 ▸ hsame.1, hn.2.2 ▸ hsame.2⟩
        · rintro n' ⟨n, hn, rfl⟩
          refine ⟨(chownInode_perm777 n u g).trans hn.1, fun u' g' he => ?_⟩
          cases he
          exact (chownInode_keeps n u g).2.2
  · rename_i hns
    exact Triple.pure _ (fun w ⟨_, hr⟩ hok => by
      have := statRes_err (w := w) (p := p) (fl := true) (fun s hs => hns s (hr.trans hs))
      rw [hr] at hok
      exact absurd (this.symm.trans hok) (by decide))

/-- **`setPermissions(p)` that does not fail leaves mode and owner on the object at `p`** -/
theorem setPermissions_sets (dp : Path) (mode : Nat) (owner : Option (Nat × Nat)) (p : Str) (hp : LexArg dp p)
    (w : World) (hw : LW dp w) (hok : isErr ((setPermissionsP p mode owner).run w).1 = false) :
    LW dp ((setPermissionsP p mode owner).run w).2 ∧
    ∃ i, ((setPermissionsP p mode owner).run w).2.fs.lookup (pathComps p) = some i ∧
      Has mode owner i ((setPermissionsP p mode owner).run w).2 := by
  obtain ⟨hw', i, n, hl, hi, hn⟩ := setPermissions_triple dp mode owner p hp w hw hok
  exact ⟨hw', i, hl, n, hi, hn⟩

/-- **`setPermissions` over a list**: when none of the calls fails, every listed path ends with mode and owner;
    names are untouched, and every inode that carried mode and owner before still does -/
theorem setAll_post (dp : Path) (mode : Nat) (owner : Option (Nat × Nat)) : ∀ (L : List Str) (w : World),
    LW dp w → (∀ p ∈ L, LexArg dp p) → isErr ((setAll mode owner L).run w).1 = false →
    LW dp ((setAll mode owner L).run w).2 ∧
    (∀ q, ((setAll mode owner L).run w).2.fs.lookup q = w.fs.lookup q) ∧
    (∀ j, Has mode owner j w → Has mode owner j ((setAll mode owner L).run w).2) ∧
    ∀ p ∈ L, ∃ i, w.fs.lookup (pathComps p) = some i ∧ Has mode owner i ((setAll mode owner L).run w).2 := by
  intro L
  fun_induction setAll mode owner L
  case case1 => exact fun w hw _ _ => ⟨hw, fun _ => rfl, fun _ h => h, nofun⟩
  case case2 p ps ih =>
    intro w hw hL hok
    rw [Prog.bind_eq, Prog.run_bind] at hok ⊢
    have hkeep := KeepsNames.run _ w (keeps_setPermissions p mode owner)
    have hpres := fun j => has_setPermissions mode owner p j w
    have hsets := setPermissions_sets dp mode owner p (hL p (by simp)) w hw
    generalize (setPermissionsP p mode owner).run w = r1 at hok hkeep hpres hsets
    obtain ⟨r, w1⟩ := r1
    simp only at hok hkeep hpres hsets ⊢
    by_cases hr : isErr r = true
    · simp only [hr, if_true, Prog.run, pure] at hok
      cases hok
    · have hr' : isErr r = false := by simpa using hr
      simp only [hr, Bool.false_eq_true, if_false] at hok ⊢
      obtain ⟨hw1, i, hl1, hi1⟩ := hsets hr'
      obtain ⟨hwf, hnames, hhas, hrest⟩ := ih w1 hw1 (fun q hq => hL q (by simp [hq])) hok
      refine ⟨hwf, fun q => by rw [hnames q, hkeep q], fun j hj => hhas j (hpres j hj), ?_⟩
      intro q hq
      rcases List.mem_cons.mp hq with rfl | hq
      · exact ⟨i, by rw [← hkeep]; exact hl1, hhas i hi1⟩
      · obtain ⟨i', hl', hh'⟩ := hrest q hq
        exact ⟨i', by rw [← hkeep]; exact hl', hh'⟩

theorem missingOf_run : ∀ (L : List Str) (w : World),
    (missingOf L).run w = (L.filter (fun d => isENOENT (step w (.stat d)).1), w)
  | [], w => rfl
  | d :: ds, w => by
    simp only [missingOf]
    rw [run_sys_bind, stat_world, Prog.bind_eq, Prog.run_bind, missingOf_run ds w]
    simp only [Prog.run, pure, List.filter_cons]

theorem mkdirAllAndChown_run (path0 : Str) (mode : Nat) (owner : Option (Nat × Nat)) (w : World)
    (hnd : ∀ s, (step w (.stat (clean path0))).1 ≠ .stat s) :
    (mkdirAllAndChownP path0 mode owner).run w =
      if isErr (step w (.mkdirAll (clean path0) mode)).1 = true then step w (.mkdirAll (clean path0) mode)
      else (setAll mode owner ((if isENOENT (step w (.stat (clean path0))).1 = true then [clean path0] else []) ++
        (ancestorsOf (clean path0).length (clean path0)).filter (fun d => isENOENT (step w (.stat d)).1))).run
          (step w (.mkdirAll (clean path0) mode)).2 := by
  unfold mkdirAllAndChownP
  simp only
  rw [run_sys_bind, stat_world]
  split
  · rename_i s hs
    exact absurd hs (hnd s)
  · rw [Prog.bind_eq, Prog.run_bind, missingOf_run]
    simp only
    rw [run_sys_bind]
    split <;> rfl

/-- **`MkdirAllAndChown(path, mode, owner, WithOnlyNew)`**: when it does not fail (and the path was not there as a
    directory already), every directory it found missing — the path itself and each missing ancestor — ends with the
    mode's permission bits and the given owner -/
theorem mkdirAllAndChown_post (dp : Path) (path0 : Str) (mode : Nat) (owner : Option (Nat × Nat))
    (hc : CleanAbs (clean path0)) (hin : dp <+: pathComps (clean path0))
    (w : World) (hw : LW dp w) (hnd : ∀ s, (step w (.stat (clean path0))).1 ≠ .stat s)
    (hok : isErr ((mkdirAllAndChownP path0 mode owner).run w).1 = false) :
    LW dp ((mkdirAllAndChownP path0 mode owner).run w).2 ∧
    ∀ d, (d = clean path0 ∨ d ∈ ancestorsOf (clean path0).length (clean path0)) →
      isENOENT (step w (.stat d)).1 = true →
      ∃ i, ((mkdirAllAndChownP path0 mode owner).run w).2.fs.lookup (pathComps d) = some i ∧
        Has mode owner i ((mkdirAllAndChownP path0 mode owner).run w).2 := by
  rw [mkdirAllAndChown_run path0 mode owner w hnd] at hok ⊢
  by_cases hm : isErr (step w (.mkdirAll (clean path0) mode)).1 = true
  · rw [if_pos hm, hm] at hok
    cases hok
  rw [if_neg hm] at hok ⊢
  have hw2 := (step_good dp w _ hw (Or.inr ⟨clean path0, mode, rfl, hc.no_dotdot, Or.inl hin⟩)).2
  -- a path of the chain that `stat` reports missing lies beneath the destination
  have hL : ∀ p ∈ (if isENOENT (step w (.stat (clean path0))).1 = true then [clean path0] else []) ++
      (ancestorsOf (clean path0).length (clean path0)).filter (fun d => isENOENT (step w (.stat d)).1), LexArg dp p := by
    intro p hp
    rcases List.mem_append.mp hp with hp | hp
    · split at hp
      · rw [List.mem_singleton.mp hp]; exact ⟨hin, hc.no_dotdot⟩
      · cases hp
    · obtain ⟨hpa, hpe⟩ := List.mem_filter.mp hp
      obtain ⟨hpc, hpp⟩ := ancestorsOf_spec _ _ hc p hpa
      exact stat_missing_lex dp p ⟨hpc, List.prefix_or_prefix_of_prefix hin hpp⟩ true w hw (by simpa [step] using hpe)
  obtain ⟨hwf, hnames, _, hall⟩ := setAll_post dp mode owner _ _ hw2 hL hok
  refine ⟨hwf, fun d hd he => ?_⟩
  obtain ⟨i, hl, hh⟩ := hall d (by
    rcases hd with rfl | hd
    · rw [if_pos he]; simp
    · exact List.mem_append_right _ (List.mem_filter.mpr ⟨hd, he⟩))
  exact ⟨i, by rw [hnames]; exact hl, hh⟩

end GA
