import GA.Proofs.LexProg
import GA.M.Unpack
/-
  What `stat` makes of a path at or above the destination in a symlink-free world: every prefix is a directory
  (`Chain`, in `LW`), so the walk gets through (`walk_chain`) and the answer is that of a directory, never "no such
  file" (`stat_above`).  `ancestorsOf_spec`: the ancestors `MkdirAllAndChown` looks at are cleaned paths above the
  path.
-/
namespace GA

theorem ancestorsOf_spec : ∀ (fuel : Nat) (p : Str), CleanAbs p → ∀ a ∈ ancestorsOf fuel p,
    CleanAbs a ∧ pathComps a <+: pathComps p := by
  intro fuel p
  fun_induction ancestorsOf fuel p
  case case3 p d _ ih =>
    intro hp a ha
    have hd := dir_cleanAbs hp
    have hpre : pathComps d <+: pathComps p := hd.2 ▸ List.dropLast_prefix _
    rcases List.mem_cons.mp ha with rfl | ha
    · exact ⟨hd.1, hpre⟩
    · exact ⟨(ih hd.1 a ha).1, (ih hd.1 a ha).2.trans hpre⟩
  all_goals nofun

theorem walk_chain (fs : FS) (root : Path) (hns : NoSym fs) (fuel links : Nat) (cs : List Str) (cur : Path)
    (fl : Bool) (hdd : dotdot ∉ cs) (hdirs : ∀ pre, pre <+: cs → fs.isDir (cur ++ pre) = true) :
    walk fs root fuel links cur cs fl = .ok (cur ++ cs) ∨ walk fs root fuel links cur cs fl = .err .ELOOP := by
  have hd := walk_descent fs root hns fuel links cur cs fl hdd
  generalize walk fs root fuel links cur cs fl = r at hd ⊢
  cases hd with
  | ok => exact .inl rfl
  | eloop => exact .inr rfl
  | enoent hp hg =>
    obtain ⟨n, hn, _⟩ := (isDir_iff fs _).mp (hdirs _ hp)
    rw [hg] at hn; cases hn
  | enotdir hp hd => rw [hdirs _ hp] at hd; cases hd

/-- `stat`/`lstat` of a path that names the destination or one of its ancestors: if it answers with a stat, that of a
    directory, and never "does not exist" -/
theorem stat_above (dp : Path) (w : World) (h : LW dp w) (d : Str) (fl : Bool) (hne : d ≠ [])
    (hdd : dotdot ∉ pathComps d) (hab : pathComps d <+: dp) :
    (∀ s, statRes w d fl = .stat s → s.kind = .dir) ∧ isENOENT (statRes w d fl) = false := by
  have hw := walk_chain w.fs [] h.inv.nosym walkFuel 40 (pathComps d) [] (fl || mustDir d) hdd
    (fun pre hpre => h.isDir_prefix (hpre.trans hab))
  have hfin : w.fs.isDir (pathComps d) = true := h.isDir_prefix hab
  obtain ⟨n, hn, hk⟩ := (isDir_iff _ _).mp hfin
  have hres : resolve w d fl = .ok (pathComps d) ∨ resolve w d fl = .err .ELOOP := by
    unfold resolve
    rw [if_neg hne, h.inv.root]
    simp only
    rcases hw with hw | hw
    · rw [hw]
      left
      simp only [List.nil_append, hn, hk]
      split <;> simp
    · rw [hw]; right; rfl
  rw [get_def] at hn
  cases hl : w.fs.lookup (pathComps d) with
  | none => rw [hl] at hn; cases hn
  | some i =>
    rw [hl] at hn
    simp only [Option.bind_some] at hn
    unfold statRes
    rcases hres with hres | hres
    · rw [hres]
      simp only [hl, hn]
      refine ⟨fun s hs => ?_, rfl⟩
      injection hs with hs
      rw [← hs]; exact hk
    · rw [hres]
      exact ⟨fun s hs => (by cases hs), rfl⟩

end GA
