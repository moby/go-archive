import GA.Proofs.LexProg
/-
  The frame of an extraction.  `T` is the set of paths an archive names (entry paths and hard-link
  sources).  A path is *covered* when it is one of them or lies beneath one; it is an *ancestor* when one
  of them lies at or beneath it.  `Framed T fs0 fs`: relative to the file system `fs0` the extraction
  started from, every uncovered name still binds the inode it bound, an inode all of whose names were
  uncovered has exactly the names it had and the record it had — except that the modification time of a
  directory on the way to a named path may have been set by the kernel.  `Framed` under the primitives of `FS`
  (`Framed.setInode`, `.adds`, `.filter`, …), `Framed.comp` for one extraction after another, and `Framed.sole`:
  what the frame says of an object under its one name.
-/
namespace GA

def Cov (T : List Path) (p : Path) : Prop := ∃ t ∈ T, t <+: p
def Anc (T : List Path) (p : Path) : Prop := ∃ t ∈ T, p <+: t
def CovAnc (T : List Path) (p : Path) : Prop := Cov T p ∨ Anc T p

instance (T : List Path) (p : Path) : Decidable (Cov T p) := inferInstanceAs (Decidable (∃ t ∈ T, t <+: p))
instance (T : List Path) (p : Path) : Decidable (Anc T p) := inferInstanceAs (Decidable (∃ t ∈ T, p <+: t))

theorem Cov.append {T : List Path} {p : Path} (h : Cov T p) (s : Path) : Cov T (p ++ s) := by
  obtain ⟨t, ht, hp⟩ := h
  exact ⟨t, ht, hp.trans (List.prefix_append _ _)⟩

theorem Cov.of_prefix {T : List Path} {p q : Path} (h : Cov T p) (hpq : p <+: q) : Cov T q := by
  obtain ⟨t, ht, hp⟩ := h
  exact ⟨t, ht, hp.trans hpq⟩

theorem CovAnc.of_prefix {T : List Path} {p q : Path} (h : CovAnc T q) (hpq : p <+: q) : CovAnc T p := by
  rcases h with ⟨t, ht, h⟩ | ⟨t, ht, h⟩
  · rcases List.prefix_or_prefix_of_prefix h hpq with h1 | h1
    · exact Or.inl ⟨t, ht, h1⟩
    · exact Or.inr ⟨t, ht, h1⟩
  · exact Or.inr ⟨t, ht, hpq.trans h⟩

theorem CovAnc.dropLast {T : List Path} {q : Path} (h : CovAnc T q) : CovAnc T q.dropLast :=
  h.of_prefix (List.dropLast_prefix q)

def OutI (T : List Path) (fs0 : FS) (i : Ino) : Prop :=
  (∃ p, fs0.lookup p = some i) ∧ ∀ p, fs0.lookup p = some i → ¬ Cov T p

def QuietI (T : List Path) (fs0 : FS) (i : Ino) : Prop :=
  OutI T fs0 i ∧ ∀ p, fs0.lookup p = some i → ¬ Anc T p

def eraseM (n : Inode) : Inode := { n with mtime := none }

theorem eraseM_fields {a b : Inode} (h : eraseM a = eraseM b) :
    a.kind = b.kind ∧ a.perm = b.perm ∧ a.uid = b.uid ∧ a.gid = b.gid := by
  have h1 := congrArg Inode.kind h
  have h2 := congrArg Inode.perm h
  have h3 := congrArg Inode.uid h
  have h4 := congrArg Inode.gid h
  exact ⟨h1, h2, h3, h4⟩

structure Framed (T : List Path) (fs0 fs : FS) : Prop where
  next_le : fs0.next ≤ fs.next
  names_keep : ∀ p i, fs0.lookup p = some i → ¬ Cov T p → fs.lookup p = some i
  no_capture : ∀ i, OutI T fs0 i → ∀ p, fs.lookup p = some i → fs0.lookup p = some i
  inode_out : ∀ i, OutI T fs0 i → (fs.inode i).map eraseM = (fs0.inode i).map eraseM
  inode_quiet : ∀ i, QuietI T fs0 i → fs.inode i = fs0.inode i
  absent_keep : ∀ p, fs0.lookup p = none → ¬ CovAnc T p → fs.lookup p = none

theorem Framed.refl (T : List Path) (fs : FS) : Framed T fs fs :=
  ⟨Nat.le_refl _, fun _ _ h _ => h, fun _ _ _ h => h, fun _ _ => rfl, fun _ _ => rfl, fun _ h _ => h⟩

theorem Framed.not_out {T : List Path} {fs0 fs : FS} (h : Framed T fs0 fs) {q : Path} {j : Ino}
    (hq : fs.lookup q = some j) (hc : Cov T q ∨ fs0.lookup q = none) : ¬ OutI T fs0 j := by
  intro ho
  have h0 := h.no_capture j ho q hq
  rcases hc with hc | hc
  · exact ho.2 q h0 hc
  · rw [hc] at h0; cases h0

/-- the record of `j` is replaced; if `j` is an inode the frame speaks of, only its modification time goes, and
    it is an inode on the way to a named path -/
theorem Framed.setInode {T : List Path} {fs0 fs : FS} (h : Framed T fs0 fs) (j : Ino) {n : Inode} (m : Inode)
    (hn : fs.inode j = some n) (hj : OutI T fs0 j → eraseM m = eraseM n ∧ ¬ QuietI T fs0 j) :
    Framed T fs0 (fs.setInode j m) := by
  refine ⟨h.next_le, h.names_keep, h.no_capture, fun i hi => ?_, fun i hi => ?_, h.absent_keep⟩
  · by_cases e : i = j
    · subst e; rw [← h.inode_out i hi, hn]; rw [inode_setInode, if_pos rfl]; exact congrArg some (hj hi).1
    · rw [inode_setInode_ne fs j i m e]; exact h.inode_out i hi
  · have : i ≠ j := fun e => (hj (e ▸ hi.1)).2 (e ▸ hi)
    rw [inode_setInode_ne fs j i m this]; exact h.inode_quiet i hi

theorem Framed.touch {T : List Path} {fs0 fs : FS} (h : Framed T fs0 fs) (q : Path) (hq : CovAnc T q.dropLast) :
    Framed T fs0 (fs.touchParent q) := by
  fun_cases FS.touchParent fs q
  case case1 j hj =>
    rcases modInode_eq fs j (fun n => { n with mtime := none }) with e | ⟨n, hn, e⟩ <;> rw [e]
    · exact h
    · refine h.setInode j _ hn fun ho => ⟨rfl, fun hqi => ?_⟩
      have h0 := h.no_capture j ho _ hj
      exact hq.elim (ho.2 _ h0) (hqi.2 _ h0)
  case case2 => exact h

theorem Framed.adds {T : List Path} {fs0 fs fs' : FS} {q : Path} {j : Ino} (h : Framed T fs0 fs) (ha : AddsName fs fs' q j)
    (hq : CovAnc T q) (hj : ¬ OutI T fs0 j) : Framed T fs0 fs' := by
  have hne : ∀ i, OutI T fs0 i → i ≠ j := fun i hi e => hj (e ▸ hi)
  refine ⟨Nat.le_trans h.next_le ha.next, fun p i hp hc => ?_, fun i hi p hp => ?_,
    fun i hi => by rw [ha.inode i (hne i hi)]; exact h.inode_out i hi,
    fun i hi => by rw [ha.inode i (hne i hi.1)]; exact h.inode_quiet i hi, fun p hp hc => ?_⟩
  · have hk := h.names_keep p i hp hc
    rw [ha.lookup_ne fun e => by rw [e, ha.new] at hk; cases hk]; exact hk
  · rcases lookup_new_or_old ha.lookup hp with ⟨_, e⟩ | hp
    · exact absurd e (hne i hi)
    · exact h.no_capture i hi p hp
  · rw [ha.lookup_ne fun (e : p = q) => hc (e ▸ hq)]; exact h.absent_keep p hp hc

theorem Framed.create {T : List Path} {fs0 fs : FS} (h : Framed T fs0 fs) (h0 : NextFresh fs0) (q : Path) (n : Inode)
    (hn : fs.lookup q = none) (hq : CovAnc T q) : Framed T fs0 (fs.create q n) :=
  -- an inode with a name in `fs0` is below `fs0.next`, hence not the new one
  (h.adds (addsName_appendNew fs q n hn) hq fun ⟨⟨p, hp⟩, _⟩ =>
    Nat.lt_irrefl _ (Nat.lt_of_lt_of_le (h0 p _ hp) h.next_le)).touch q hq.dropLast

theorem Framed.addName {T : List Path} {fs0 fs : FS} (h : Framed T fs0 fs) (q qo : Path) (j : Ino)
    (hn : fs.lookup q = none) (ho : fs.lookup qo = some j) (hc : Cov T qo ∨ fs0.lookup qo = none)
    (hq : CovAnc T q) : Framed T fs0 (fs.addName q j) :=
  (h.adds (addsName_append fs q j hn) hq (h.not_out ho hc)).touch q hq.dropLast

theorem Framed.filter {T : List Path} {fs0 fs : FS} (h : Framed T fs0 fs) (keep : Path → Bool)
    (hk : ∀ p, ¬ Cov T p → keep p = true) :
    Framed T fs0 ({ fs with names := fs.names.filter (fun e => keep e.1) } : FS) := by
  refine ⟨h.next_le, ?_, ?_, h.inode_out, h.inode_quiet, ?_⟩
  rotate_right
  · intro p hp hc
    rw [lookup_filterNames]
    split
    · exact h.absent_keep p hp hc
    · rfl
  · intro p i hp hc
    rw [lookup_filterNames, hk p hc]
    exact h.names_keep p i hp hc
  · exact fun i hi p hp => h.no_capture i hi p (lookup_filterNames_some hp).1

theorem Framed.removeSubtree {T : List Path} {fs0 fs : FS} (h : Framed T fs0 fs) (q : Path) (hq : Cov T q) :
    Framed T fs0 (fs.removeSubtree q) := by
  unfold FS.removeSubtree
  refine Framed.touch (h.filter (fun p => !(under q p)) ?_) q (CovAnc.dropLast (.inl hq))
  intro p hp
  cases hu : under q p with
  | false => rfl
  | true => exact absurd (hq.of_prefix (List.isPrefixOf_iff_prefix.mp hu)) hp

theorem Framed.all_covered {T : List Path} {fs0 fs : FS} (hc : Cov T []) (hn : fs0.next ≤ fs.next) : Framed T fs0 fs := by
  have hcov : ∀ p, Cov T p := fun _ => hc.of_prefix List.nil_prefix
  have hno : ∀ i, ¬ OutI T fs0 i := fun _ ⟨⟨p, hp⟩, hall⟩ => hall p hp (hcov p)
  exact ⟨hn, fun p _ _ hcp => absurd (hcov p) hcp, fun i hi => absurd hi (hno i),
    fun i hi => absurd hi (hno i), fun i hi => absurd hi.1 (hno i), fun p _ hcp => absurd (Or.inl (hcov p)) hcp⟩

theorem cov_mono {T1 T2 : List Path} (h : ∀ t ∈ T1, t ∈ T2) {p : Path} (hc : Cov T1 p) : Cov T2 p := by
  obtain ⟨t, ht, hp⟩ := hc; exact ⟨t, h t ht, hp⟩

theorem anc_mono {T1 T2 : List Path} (h : ∀ t ∈ T1, t ∈ T2) {p : Path} (hc : Anc T1 p) : Anc T2 p := by
  obtain ⟨t, ht, hp⟩ := hc; exact ⟨t, h t ht, hp⟩

/-- naming more paths claims less -/
theorem Framed.mono {T1 T2 : List Path} {a b : FS} (h : Framed T1 a b) (hT : ∀ t ∈ T1, t ∈ T2) : Framed T2 a b :=
  have ho : ∀ i, OutI T2 a i → OutI T1 a i := fun _ hi => ⟨hi.1, fun p hp hc => hi.2 p hp (cov_mono hT hc)⟩
  ⟨h.next_le, fun p i hp hc => h.names_keep p i hp fun c => hc (cov_mono hT c), fun i hi => h.no_capture i (ho i hi),
    fun i hi => h.inode_out i (ho i hi),
    fun i hi => h.inode_quiet i ⟨ho i hi.1, fun p hp hc => hi.2 p hp (anc_mono hT hc)⟩,
    fun p hp hc => h.absent_keep p hp fun c => hc (c.imp (cov_mono hT) (anc_mono hT))⟩

/-- frames compose: one extraction after another leaves alone what neither of them names -/
theorem Framed.comp {T1 T2 : List Path} {a b c : FS} (h1 : Framed T1 a b) (h2 : Framed T2 b c) :
    Framed (T1 ++ T2) a c := by
  have hL : ∀ t ∈ T1, t ∈ T1 ++ T2 := fun _ => List.mem_append_left _
  have hR : ∀ t ∈ T2, t ∈ T1 ++ T2 := fun _ => List.mem_append_right _
  have key : ∀ i, OutI (T1 ++ T2) a i → OutI T1 a i ∧ OutI T2 b i := by
    intro i hi
    have ho1 : OutI T1 a i := ⟨hi.1, fun p hp hc => hi.2 p hp (cov_mono hL hc)⟩
    obtain ⟨p0, hp0⟩ := hi.1
    refine ⟨ho1, ⟨p0, h1.names_keep p0 i hp0 (ho1.2 p0 hp0)⟩, ?_⟩
    intro p hp hc
    exact hi.2 p (h1.no_capture i ho1 p hp) (cov_mono hR hc)
  refine ⟨Nat.le_trans h1.next_le h2.next_le, ?_, ?_, ?_, ?_, ?_⟩
  rotate_right
  · intro p hp hc
    have hc1 : ¬ CovAnc T1 p := fun h => hc (h.elim (fun h => Or.inl (cov_mono hL h))
      (fun h => Or.inr (anc_mono hL h)))
    have hc2 : ¬ CovAnc T2 p := fun h => hc (h.elim (fun h => Or.inl (cov_mono hR h))
      (fun h => Or.inr (anc_mono hR h)))
    exact h2.absent_keep p (h1.absent_keep p hp hc1) hc2
  · intro p i hp hc
    have hc1 : ¬ Cov T1 p := fun h => hc (cov_mono hL h)
    have hc2 : ¬ Cov T2 p := fun h => hc (cov_mono hR h)
    exact h2.names_keep p i (h1.names_keep p i hp hc1) hc2
  · intro i hi p hp
    obtain ⟨ho1, ho2⟩ := key i hi
    exact h1.no_capture i ho1 p (h2.no_capture i ho2 p hp)
  · intro i hi
    obtain ⟨ho1, ho2⟩ := key i hi
    rw [h2.inode_out i ho2, h1.inode_out i ho1]
  · intro i hi
    obtain ⟨ho1, ho2⟩ := key i hi.1
    have hq1 : QuietI T1 a i := ⟨ho1, fun p hp hc => hi.2 p hp (anc_mono hL hc)⟩
    have hq2 : QuietI T2 b i := ⟨ho2, fun p hp hc => hi.2 p (h1.no_capture i ho1 p hp) (anc_mono hR hc)⟩
    rw [h2.inode_quiet i hq2, h1.inode_quiet i hq1]

/-- an object under its one name, which `T` does not cover: the name still binds it and is still its only one; it is
    what it was but for its time, and just what it was when `T` names nothing beneath the name either -/
theorem Framed.sole {T : List Path} {fs0 fs : FS} (h : Framed T fs0 fs) {P : Path} {i : Ino} (hl : fs0.lookup P = some i)
    (hu : ∀ q, fs0.lookup q = some i → q = P) (hc : ¬ Cov T P) :
    fs.lookup P = some i ∧ (∀ q, fs.lookup q = some i → q = P) ∧ (fs.inode i).map eraseM = (fs0.inode i).map eraseM ∧
      (¬ Anc T P → fs.inode i = fs0.inode i) := by
  have ho : OutI T fs0 i := ⟨⟨P, hl⟩, fun p hp => by rw [hu p hp]; exact hc⟩
  exact ⟨h.names_keep P i hl hc, fun q hq => hu q (h.no_capture i ho q hq), h.inode_out i ho,
    fun ha => h.inode_quiet i ⟨ho, fun p hp => by rw [hu p hp]; exact ha⟩⟩

end GA
