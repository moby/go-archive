import GA.Proofs.LexStrings
import GA.Proofs.LexJoin
import GA.Proofs.Within
import GA.Proofs.UnpackIter
/-
  The plain extractor (`unpackP`, default whiteout format, no symbolic-link entries) issues only good calls: every
  mutating call names a path lexically beneath the destination.  For one iteration this is read off `walk_unpackIter`
  (`UnpackIter`), with one lemma per footprint saying that `SysGood` of `LexProg` allows it (`MkdirCall.lex`,
  `CreateOn.lex`, `UnpackOn.lex`): `lex_iter`, then `lex_unpackLoop`, `lex_untar`.  `DirsOK` is the invariant of the
  loop state.
-/
namespace GA

theorem good_lex {dp : Path} {s : Sys} (h : SysLex dp s) : SysGood dp s := Or.inl h

theorem lexArg_of {dp : Path} {p : Str} (hp : CleanAbs p) (h : dp <+: pathComps p) : LexArg dp p := ⟨h, hp.no_dotdot⟩

theorem lex_info (dp : Path) (s : Sys) (h : SysLex dp s) : LexSem dp (fun _ => True) (sys s) :=
  ⟨good_lex h, fun _ _ => trivial⟩

theorem lexSem_true {α : Type} (dp : Path) {Q : α → Prop} (p : Prog α) (h : LexSem dp Q p) : LexSem dp (fun _ => True) p :=
  LexSem.mono dp (fun _ _ => trivial) p h

/-- at, above or beneath the destination: where the implied parent of an entry's path and its ancestors lie -/
def Placed (dp : Path) (d : Str) : Prop := CleanAbs d ∧ (dp <+: pathComps d ∨ pathComps d <+: dp)

theorem stat_missing_lex (dp : Path) (d : Str) (hd : Placed dp d) (fl : Bool) (w : World) (hw : LW dp w) :
    isENOENT (statRes w d fl) = true → LexArg dp d := by
  intro he
  rcases hd.2 with h | h
  · exact lexArg_of hd.1 h
  · have := (stat_above dp w hw d fl hd.1.ne_nil hd.1.no_dotdot h).2
    rw [this] at he; cases he

theorem PermOn.lex {dp : Path} {p : Str} {mode : Nat} {owner : Option (Nat × Nat)} {s : Sys} (h : PermOn p mode owner s) (hp : LexArg dp p) : SysLex dp s := by
  cases h
  · trivial
  all_goals exact hp

theorem MkdirCall.lex {dp : Path} {path : Str} {mode : Nat} {owner : Option (Nat × Nat)} {s : Sys} (hp : Placed dp path)
    (h : MkdirCall (AnsLW dp) path mode owner s) : SysGood dp s := by
  have hD : ∀ d ∈ path :: ancestorsOf path.length path, Placed dp d := by
    intro d hd
    rcases List.mem_cons.mp hd with rfl | hd
    · exact hp
    · have := ancestorsOf_spec _ _ hp.1 d hd
      refine ⟨this.1, ?_⟩
      rcases hp.2 with h | h
      · exact List.prefix_or_prefix_of_prefix h this.2
      · exact Or.inr (this.2.trans h)
  match h with
  | .stat _ => exact good_lex (s := .stat _) trivial
  | .mkdirAll => exact Or.inr ⟨path, mode, rfl, hp.1.no_dotdot, hp.2⟩
  | .perm hd ⟨w, hw, hr⟩ he h =>
    subst hr
    exact good_lex (h.lex (stat_missing_lex dp _ (hD _ hd) true w hw he))

theorem guardName_ok (dest n p : Str) (hd : CleanAbs dest) (h : guardName dest n = .ok p) :
    p = join dest n ∧ CleanAbs p ∧ pathComps dest <+: pathComps p := by
  obtain rfl := guardName_path h
  have hp : CleanAbs (join dest n) := join_cleanAbs dest n hd
  obtain ⟨r, hr, hup⟩ := rel_cleanAbs hd hp
  unfold guardName at h
  simp only [hr] at h
  split at h
  · cases h
  · rename_i hne
    exact ⟨rfl, hp, Classical.not_not.mp (mt hup.mpr hne)⟩

theorem MkdirCall.lex_implied {dp : Path} {dest x : Str} {mode : Nat} {owner : Option (Nat × Nat)} {s : Sys} (hd : CleanAbs dest)
    (hin : dp <+: pathComps (join dest (clean x)))
    (h : MkdirCall (AnsLW dp) (clean (join dest (dir (clean x)))) mode owner s) : SysGood dp s := by
  have hc := implied_parent_comparable dest x hd
  rw [clean_of_cleanAbs _ hc.1] at h
  refine h.lex ⟨hc.1, ?_⟩
  rcases hc.2.2 with h | h
  · exact List.prefix_or_prefix_of_prefix hin h
  · exact Or.inl (hin.trans h)

theorem lex_impliedDirs (dp : Path) (dest x : Str) (o : Opts) (hd : CleanAbs dest)
    (hin : dp <+: pathComps (join dest (clean x))) :
    LexSem dp (fun _ => True) (impliedDirsP dest (clean x) o) :=
  LexSem.of_ans dp (fun _ h => h) _ (walk_impliedDirs dest (clean x) o (good_lex (s := .lstat _) trivial)
    fun _ h => h.lex_implied hd hin)

theorem MetaOn.lex {dp : Path} {path : Str} {s : Sys} (h : MetaOn path s) (hp : LexArg dp path) : SysLex dp s := by
  cases h
  · trivial
  all_goals exact hp

theorem lex_applyMeta (dp : Path) (path : Str) (e : Entry) (o : Opts) (hp : LexArg dp path) :
    LexSem dp (fun _ => True) (applyMetaP path e o) :=
  LexSem.of_calls dp (fun _ h => h.lex hp) _ (calls_applyMeta path e o)

theorem within_lexArg {dp : Path} {xd : Str} (hxd : CleanAbs xd) (hdp : pathComps xd = dp) (l : Str)
    (hw : isWithin xd (join xd l) = true) : LexArg dp (join xd l) :=
  lexArg_of (join_cleanAbs xd _ hxd) (hdp ▸ (isWithin_iff_prefix hxd (join_cleanAbs xd _ hxd)).mp hw)

theorem CreateOn.lex {dp : Path} {path xd : Str} {e : Entry} {s : Sys} (h : CreateOn path xd e s) (hp : LexArg dp path)
    (hxd : CleanAbs xd) (hdp : pathComps xd = dp) (hsym : e.typ ≠ .sym) : SysLex dp s :=
  match h with
  | .attr h => h.lex hp
  | .mkdir _ => hp
  | .createWrite _ _ _ => hp
  | .mknod _ hk _ _ => ⟨hp, hk⟩
  | .link _ hw => ⟨within_lexArg hxd hdp _ hw, hp⟩
  | .symlink hs => absurd hs hsym

/-- the deferred directory list only ever holds names that passed the guard -/
def DirsOK (dp : Path) (dest : Str) (dirs : List Entry) : Prop := ∀ x ∈ dirs, LexArg dp (join dest x.name)

theorem lex_dirTimes (dp : Path) (dest : Str) (es : List Entry) (h : DirsOK dp dest es) :
    LexSem dp (fun _ => True) (dirTimesP dest es) :=
  LexSem.of_calls dp (fun _ ⟨x, hx, hs⟩ => hs.lex (h x hx)) _ (calls_dirTimes dest es)

/-- the loops compare a path with `Clean(dest)` where the invariants speak of components -/
theorem eq_clean_dest {dp : Path} {dest p : Str} (hd : CleanAbs dest) (hdp : pathComps dest = dp) (hpc : CleanAbs p)
    (hpd : pathComps p = dp) : p = clean dest :=
  (cleanAbs_eq_of_comps hpc hd (hpd.trans hdp.symm)).trans (clean_of_cleanAbs dest hd).symm

/-- at the destination itself `lstat` reports a directory, and then the decision is never "remove" -/
theorem remove_not_dest (dp : Path) (dest : Str) (o : Opts) (hd : CleanAbs dest) (hdp : pathComps dest = dp) (e : Entry)
    (p : Str) (hpc : CleanAbs p) (w : World) (hw : LW dp w)
    (h3 : actOf o (step w (.lstat p)).1 e (p == clean dest) = 3) : pathComps p ≠ dp := by
  intro hpd
  have hself : (p == clean dest) = true := beq_iff_eq.mpr (eq_clean_dest hd hdp hpc hpd)
  have hk := (stat_above dp w hw p false hpc.ne_nil hpc.no_dotdot (by rw [hpd]; exact List.prefix_refl _)).1
  generalize hl : (step w (.lstat p)).1 = l at h3
  revert h3
  fun_cases actOf o l e (p == clean dest)
  -- "remove" is decided only after the test "a directory, and the destination itself" has failed
  case case4 s isD _ _ h _ => exact fun _ => h (by simp [isD, hk s hl, hself])
  all_goals nofun

theorem UnpackOn.lex {dp : Path} {dest : Str} {o : Opts} {e : Entry} {p : Str} {s : Sys} (hd : CleanAbs dest)
    (hdp : pathComps dest = dp) (hes : e.typ ≠ .sym) (hg : guardName dest (clean e.name) = .ok p)
    (h : UnpackOn (AnsLW dp) dest o e p s) : SysGood dp s := by
  obtain ⟨hpe, hpc, hpin⟩ := guardName_ok dest (clean e.name) p hd hg
  rw [hdp] at hpin
  have hp := lexArg_of hpc hpin
  match h with
  | .look r => cases r <;> exact good_lex trivial
  | .implied h => exact h.lex_implied hd (hpe ▸ hpin)
  | .replace ⟨w, hw, hl⟩ h3 => exact good_lex (s := .removeAll p) ⟨hp, remove_not_dest dp dest o hd hdp e p hpc w hw (hl ▸ h3)⟩
  | .create he' hs => exact good_lex (hs.lex hp hd hdp (remapE_typ o e _ he' ▸ hes))

theorem IterRes.dirsOK {dp : Path} {dest : Str} {e : Entry} {dirs : List Entry} {r : Except Out (List Entry)}
    (h : IterRes dest e dirs r) (hd : CleanAbs dest) (hdp : pathComps dest = dp) (hdirs : DirsOK dp dest dirs)
    (d : List Entry) (hr : r = .ok d) : DirsOK dp dest d := by
  subst hr
  refine h.dirs (fun e' p hg => ?_) hdirs
  obtain ⟨hpe, hpc, hpin⟩ := guardName_ok dest (clean e.name) p hd hg
  exact hpe ▸ lexArg_of hpc (hdp ▸ hpin)

theorem lex_iter (dp : Path) (dest : Str) (o : Opts) (hd : CleanAbs dest) (hdp : pathComps dest = dp)
    (hov : o.overlay = false) (e : Entry) (dirs : List Entry) (hes : e.typ ≠ .sym) (hdirs : DirsOK dp dest dirs) :
    LexSem dp (fun r => ∀ d', r = .ok d' → DirsOK dp dest d') (unpackIterP dest o e dirs) :=
  LexSem.of_ans dp (fun _ h => h) _ ((walk_unpackIter dest o e dirs (fun _ hg _ h => h.lex hd hdp hes hg)
    fun h => absurd (hov ▸ h) nofun).imp fun _ h => h.dirsOK hd hdp hdirs)

/-- **the loop of `Unpack` issues only good calls** (default whiteout format, no symbolic-link entries) -/
theorem lex_unpackLoop (dp : Path) (dest : Str) (o : Opts) (hd : CleanAbs dest) (hdp : pathComps dest = dp)
    (hov : o.overlay = false) : ∀ (es dirs : List Entry), (∀ e ∈ es, e.typ ≠ .sym) →
    (∀ e ∈ dirs, LexArg dp (join dest e.name)) → LexSem dp (fun _ => True) (unpackLoop dest o es dirs)
  | [], dirs, _, hdirs => by
    simp only [unpackLoop]
    exact lex_dirTimes dp dest _ (fun e he => hdirs e (by simpa using he))
  | e :: es, dirs, hsym, hdirs => by
    rw [unpackLoop_cons]
    refine LexSem.bind dp _ _ (lex_iter dp dest o hd hdp hov e dirs (hsym e (by simp)) hdirs) (fun r hr => ?_)
    match r with
    | .error out => trivial
    | .ok d => exact lex_unpackLoop dp dest o hd hdp hov es d (fun x hx => hsym x (by simp [hx])) (hr d rfl)

/-- `archive.Untar` into an absolute destination: every call is good -/
theorem lex_untar (dest : Str) (o : Opts) (es : List Entry) (habs : isAbs dest = true) (hov : o.overlay = false)
    (hsym : ∀ e ∈ es, e.typ ≠ .sym) :
    LexSem (pathComps (clean dest)) (fun _ => True) (untarP dest o es) := by
  unfold untarP unpackP
  exact lex_unpackLoop _ (clean dest) o (clean_cleanAbs dest habs) rfl hov es [] hsym (by simp)

end GA
