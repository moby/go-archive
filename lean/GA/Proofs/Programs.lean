import GA.K.Prog
/-
  General facts about programs: the monad laws of `Prog`, and predicate transformers that look at a program as
  a tree of calls.  `RProg.All P p` / `Prog.All P p`: `P` holds at every leaf of `p`, whatever the system calls
  return — so it holds in particular for the run on any concrete filesystem, with or without injected faults.
  `Prog.Sem G R Q p`: every call of `p` satisfies `G` and every leaf `Q`, along the paths on which each call `s`
  is answered by some `r` with `R s r`; `Prog.Calls G p` is the case that asks about the calls only.
  `Triple P p Q`: Hoare triples over `Prog.run`.
-/
namespace GA

/-- Applied with `refine` to a goal about a program that begins with an `if`, it unifies without touching the
    branches, where `split` would simplify all that lies beneath them. -/
theorem ite_rule {α : Sort _} {S : α → Prop} {c : Prop} [Decidable c] {a b : α} (ha : c → S a) (hb : ¬ c → S b) :
    S (if c then a else b) := by
  split
  · exact ha ‹_›
  · exact hb ‹_›

theorem ite_both {α : Sort _} {S : α → Prop} {c : Prop} [Decidable c] {a b : α} (ha : S a) (hb : S b) :
    S (if c then a else b) := ite_rule (fun _ => ha) (fun _ => hb)

def RProg.All {α : Type} (P : α → Prop) : RProg α → Prop
  | .ret a => P a
  | .call _ k => ∀ r, RProg.All P (k r)

theorem RProg.All.run {α : Type} {P : α → Prop} : ∀ (p : RProg α) (w : World), p.All P → P (p.toProg.run w).1
  | .ret _, _, h => h
  | .call _ k, _, h => RProg.All.run (k _) _ (h _)

theorem RProg.All.bind {α β : Type} {P : α → Prop} {Q : β → Prop} : ∀ (m : RProg α) (f : α → RProg β),
    m.All P → (∀ a, P a → (f a).All Q) → (m.bind f).All Q
  | .ret a, _, hm, hf => hf a hm
  | .call _ k, f, hm, hf => fun r => RProg.All.bind (k r) f (hm r) hf

theorem RProg.All.mono {α : Type} {P Q : α → Prop} (hpq : ∀ a, P a → Q a) : ∀ (p : RProg α), p.All P → p.All Q
  | .ret a, h => hpq a h
  | .call _ k, h => fun r => RProg.All.mono hpq (k r) (h r)

theorem RProg.All.pure {α : Type} {P : α → Prop} (a : α) (h : P a) : (Pure.pure a : RProg α).All P := h

theorem RProg.All.rsys {P : Res → Prop} (s : RSys) (h : ∀ r, P r) : (rsys s).All P := fun r => h r

theorem RProg.bind_eq {α β : Type} (m : RProg α) (f : α → RProg β) : (m >>= f) = m.bind f := rfl

theorem Prog.bind_eq {α β : Type} (m : Prog α) (f : α → Prog β) : m >>= f = m.bind f := rfl
theorem Prog.pure_eq {α : Type} (a : α) : (pure a : Prog α) = .ret a := rfl
theorem Prog.ret_bind {α β : Type} (a : α) (f : α → Prog β) : (Prog.ret a).bind f = f a := rfl
theorem Prog.pure_bind {α β : Type} (a : α) (f : α → Prog β) : (pure a : Prog α) >>= f = f a := rfl

theorem Prog.bind_assoc {α β γ : Type} (m : Prog α) (f : α → Prog β) (g : β → Prog γ) :
    (m.bind f).bind g = m.bind (fun a => (f a).bind g) := by
  induction m with
  | ret a => rfl
  | call s k ih => simp only [Prog.bind]; congr 1; funext r; exact ih r

theorem Prog.ite_bind {α β : Type} (c : Prop) [Decidable c] (a b : Prog α) (f : α → Prog β) :
    (if c then a else b).bind f = if c then a.bind f else b.bind f := by
  split <;> rfl

theorem Prog.run_bind {α β : Type} (m : Prog α) (f : α → Prog β) (w : World) :
    (m.bind f).run w = (f (m.run w).1).run (m.run w).2 := by
  induction m generalizing w with
  | ret a => rfl
  | call s k ih => simp only [Prog.bind, Prog.run]; exact ih _ _

def Prog.All {α : Type} (P : α → Prop) : Prog α → Prop
  | .ret a => P a
  | .call _ k => ∀ r, Prog.All P (k r)

theorem Prog.All.run {α : Type} {P : α → Prop} : ∀ (p : Prog α) (w : World), p.All P → P (p.run w).1
  | .ret _, _, h => h
  | .call _ k, _, h => Prog.All.run (k _) _ (h _)

theorem Prog.All.runF {α : Type} {P : α → Prop} (faults : Nat → Option Errno) :
    ∀ (p : Prog α) (n : Nat) (w : World), p.All P → P (p.runF faults n w).1
  | .ret _, _, _, h => h
  | .call s k, n, w, h => by
    simp only [Prog.runF]
    split <;> exact Prog.All.runF faults (k _) _ _ (h _)

theorem Prog.All.bind {α β : Type} {P : α → Prop} {Q : β → Prop} : ∀ (m : Prog α) (f : α → Prog β),
    m.All P → (∀ a, P a → (f a).All Q) → (m.bind f).All Q
  | .ret a, _, hm, hf => hf a hm
  | .call _ k, f, hm, hf => fun r => Prog.All.bind (k r) f (hm r) hf

theorem Prog.All.mono {α : Type} {P Q : α → Prop} (hpq : ∀ a, P a → Q a) : ∀ (p : Prog α), p.All P → p.All Q
  | .ret a, h => hpq a h
  | .call _ k, h => fun r => Prog.All.mono hpq (k r) (h r)

theorem Prog.All.trivial {α : Type} : ∀ (p : Prog α), p.All (fun _ => True)
  | .ret _ => True.intro
  | .call _ k => fun r => Prog.All.trivial (k r)

theorem Prog.All.bind_any {α β : Type} {Q : β → Prop} (m : Prog α) (f : α → Prog β) (h : ∀ a, (f a).All Q) :
    (m.bind f).All Q := Prog.All.bind m f (Prog.All.trivial m) (fun a _ => h a)

theorem Prog.All.pure {α : Type} {Q : α → Prop} (a : α) (h : Q a) : (Pure.pure a : Prog α).All Q := h

def Prog.Sem {α : Type} (G : Sys → Prop) (R : Sys → Res → Prop) (Q : α → Prop) : Prog α → Prop
  | .ret a => Q a
  | .call s k => G s ∧ ∀ r, R s r → Prog.Sem G R Q (k r)

namespace Prog.Sem
variable {α β : Type} {G G' : Sys → Prop} {R R' : Sys → Res → Prop}

theorem bind {Q : α → Prop} {Q' : β → Prop} : ∀ (m : Prog α) (f : α → Prog β), m.Sem G R Q →
    (∀ a, Q a → (f a).Sem G R Q') → (m.bind f).Sem G R Q'
  | .ret a, _, hm, hf => hf a hm
  | .call _ k, f, hm, hf => ⟨hm.1, fun r hr => bind (k r) f (hm.2 r hr) hf⟩

theorem mono {Q Q' : α → Prop} (hG : ∀ s, G s → G' s) (hR : ∀ s r, R' s r → R s r) (hQ : ∀ a, Q a → Q' a) :
    ∀ (p : Prog α), p.Sem G R Q → p.Sem G' R' Q'
  | .ret a, h => hQ a h
  | .call s k, h => ⟨hG s h.1, fun r hr => mono hG hR hQ (k r) (h.2 r (hR s r hr))⟩

theorem imp {Q Q' : α → Prop} {p : Prog α} (h : p.Sem G R Q) (hQ : ∀ a, Q a → Q' a) : p.Sem G R Q' :=
  mono (fun _ h => h) (fun _ _ h => h) hQ p h

theorem all {Q : α → Prop} : ∀ (p : Prog α), p.Sem G (fun _ _ => True) Q → p.All Q
  | .ret _, h => h
  | .call _ k, h => fun r => all (k r) (h.2 r trivial)

theorem of_all {Q : α → Prop} : ∀ (p : Prog α), p.All Q → p.Sem (fun _ => True) R Q
  | .ret _, h => h
  | .call _ k, h => ⟨trivial, fun r _ => of_all (k r) (h r)⟩

end Prog.Sem

theorem sem_pure {α : Type} {G : Sys → Prop} {R : Sys → Res → Prop} {Q : α → Prop} (a : α) (h : Q a) :
    (pure a : Prog α).Sem G R Q := h

theorem sem_sys {G : Sys → Prop} {R : Sys → Res → Prop} {Q : Res → Prop} (s : Sys) (hs : G s) (hq : ∀ r, R s r → Q r) :
    (sys s).Sem G R Q := ⟨hs, hq⟩

theorem sem_any {G : Sys → Prop} {R : Sys → Res → Prop} (s : Sys) (hs : G s) : (sys s).Sem G R (fun _ => True) :=
  sem_sys s hs fun _ _ => trivial

abbrev Prog.Calls {α : Type} (G : Sys → Prop) (p : Prog α) : Prop := p.Sem G (fun _ _ => True) (fun _ => True)

theorem calls_sys {G : Sys → Prop} (s : Sys) (hs : G s) : (sys s).Calls G := ⟨hs, fun _ _ => trivial⟩

theorem Prog.Calls.sem {α : Type} {G0 G : Sys → Prop} {R : Sys → Res → Prop} {p : Prog α} (h : p.Calls G0)
    (hG : ∀ s, G0 s → G s) : p.Sem G R (fun _ => True) :=
  Prog.Sem.mono hG (fun _ _ _ => trivial) (fun _ h => h) p h

def Triple {α : Type} (P : World → Prop) (p : Prog α) (Q : α → World → Prop) : Prop :=
  ∀ w, P w → Q (p.run w).1 (p.run w).2

theorem Triple.run {α : Type} {P : World → Prop} {p : Prog α} {Q : α → World → Prop} (h : Triple P p Q) {w w' : World}
    {r : α} (hw : P w) (hrun : p.run w = (r, w')) : Q r w' := by
  have := h w hw
  rwa [hrun] at this

theorem Triple.bind {α β : Type} {P : World → Prop} {Q : α → World → Prop} {R : β → World → Prop}
    (m : Prog α) (f : α → Prog β) (hm : Triple P m Q) (hf : ∀ a, Triple (Q a) (f a) R) :
    Triple P (m >>= f) R := by
  intro w hw
  show R ((m.bind f).run w).1 ((m.bind f).run w).2
  rw [Prog.run_bind]
  exact hf _ _ (hm w hw)

theorem Triple.pure {α : Type} {P : World → Prop} {Q : α → World → Prop} (a : α) (h : ∀ w, P w → Q a w) :
    Triple P (pure a : Prog α) Q := fun w hw => h w hw

theorem Triple.sys {P : World → Prop} {Q : Res → World → Prop} (s : Sys)
    (h : ∀ w, P w → Q (step w s).1 (step w s).2) : Triple P (sys s) Q := fun w hw => h w hw

theorem Triple.conseq {α : Type} {P P' : World → Prop} {Q Q' : α → World → Prop} (p : Prog α)
    (h : Triple P p Q) (hp : ∀ w, P' w → P w) (hq : ∀ a w, Q a w → Q' a w) : Triple P' p Q' :=
  fun w hw => hq _ _ (h w (hp w hw))

theorem Triple.ite {α : Type} {P : World → Prop} {Q : α → World → Prop} {c : Prop} [Decidable c] {a b : Prog α}
    (ha : c → Triple P a Q) (hb : ¬ c → Triple P b Q) : Triple P (if c then a else b) Q :=
  ite_rule (S := fun p => Triple P p Q) ha hb

theorem Prog.Calls.triple {α : Type} {G : Sys → Prop} {I : World → Prop} (hstep : ∀ s, G s → ∀ w, I w → I (step w s).2) :
    ∀ (p : Prog α), p.Calls G → Triple I p (fun _ w' => I w')
  | .ret _, _ => fun _ h => h
  | .call s k, hp => fun w h => Prog.Calls.triple hstep (k _) (hp.2 _ trivial) _ (hstep s hp.1 w h)

end GA
