import GA.Proofs.LexInv
/-
  Every system call whose path arguments lie lexically beneath the destination is confined to the
  destination, in a world without symbolic links (thread root "/"): `step_lex`, by cases on `StepEff`, for the
  calls `SysLex dp` allows (`LexArg`: the argument is lexically beneath `dp`), with the invariant `LInv` and
  `LStepOK` = `Confined` (of `Confine`) and `LInv` after; `mkdirAllK_lex` for `os.MkdirAll`.
-/
namespace GA

def LexArg (dp : Path) (p : Str) : Prop := dp <+: pathComps p ∧ dotdot ∉ pathComps p

/-- The symlink-free world: `root` and `nosym` make resolution lexical; `fresh` and `dest` are what `Confined dp`
    needs, as in `Inv`; `names` is there for what `listTree` answers (`listTree_items`), `tree` for what "no such file"
    means (`resolve_enoent_absent`), `dirone` lets a statement about the directory at a path speak of its inode. -/
structure LInv (dp : Path) (w : World) : Prop where
  root : w.root = []
  nosym : NoSym w.fs
  fresh : NextFresh w.fs
  dest : w.fs.isDir dp = true
  names : NameWF w.fs
  tree : TreeWF w.fs
  dirone : DirOne w.fs

def LStepOK (dp : Path) (w w' : World) : Prop := Confined dp w.fs w'.fs ∧ LInv dp w'

theorem LStepOK.same (dp : Path) (w : World) (h : LInv dp w) : LStepOK dp w w := ⟨Confined.refl _ _, h⟩

theorem LStepOK.trans {dp : Path} {a b c : World} (h1 : LStepOK dp a b) (h2 : LStepOK dp b c) : LStepOK dp a c :=
  ⟨Confined.trans h1.1 h2.1, h2.2⟩

theorem LInv.dest_some {dp : Path} {w : World} (h : LInv dp w) : (w.fs.lookup dp).isSome = true := by
  obtain ⟨i, hl, _⟩ := (isDir_iff_kindAt w.fs dp).mp h.dest
  rw [hl]; rfl

theorem LexArg.under {dp : Path} {p : Str} (hp : LexArg dp p) : under dp (pathComps p) = true :=
  List.isPrefixOf_iff_prefix.mpr hp.1

theorem LexArg.norm {dp : Path} {p : Str} (hp : LexArg dp p) : ∀ c ∈ pathComps p, Norm c := pathComps_norm p hp.2

theorem LInv.parent_under {dp : Path} {w : World} (h : LInv dp w) {q : Path} (hu : under dp q = true)
    (hn : w.fs.lookup q = none) : under dp q.dropLast = true := by
  have hne : q ≠ dp := by
    intro e; subst e
    have := h.dest_some
    rw [hn] at this; cases this
  exact under_dropLast hu hne

theorem LStepOK.create (dp : Path) (w : World) (h : LInv dp w) (q : Path) (n : Inode)
    (hu : under dp q = true) (hn : w.fs.lookup q = none) (hk : n.kind ≠ .sym) (hq : ∀ c ∈ q, Norm c)
    (hpd : w.fs.isDir q.dropLast = true) :
    LStepOK dp w { w with fs := w.fs.create q n } :=
  ⟨create_confined dp w.fs q n hn hu (h.parent_under hu hn) h.fresh,
   ⟨h.root, h.nosym.of_kindsFrom (kindsFrom_create _ w.fs q n hn h.fresh hk), h.fresh.create q n hn,
    (extends_create w.fs q n hn h.fresh).isDir_mono h.dest, h.names.create q n hn hq, h.tree.create q n hn h.fresh hpd,
    h.dirone.create q n hn h.fresh⟩⟩

theorem LStepOK.setInode (dp : Path) (w : World) (h : LInv dp w) (q : Path) (i : Ino) (n m : Inode)
    (hu : under dp q = true) (hq : w.fs.lookup q = some i) (hi : w.fs.inode i = some n) (hk : m.kind = n.kind) :
    LStepOK dp w { w with fs := w.fs.setInode i m } :=
  have hs := SameKinds.setInode w.fs i m hi hk
  ⟨setInode_confined dp w.fs i m q hq hu,
   ⟨h.root, h.nosym.of_kindsFrom (.of_same _ hs), h.fresh.of_same hs, (hs.isDir_eq dp).trans h.dest,
    h.names.of_same hs, h.tree.of_same hs, h.dirone.of_same hs⟩⟩

def SysLex (dp : Path) : Sys → Prop
  | .lstat _ | .stat _ | .readFile _ | .getxattr _ _ | .readlink _ | .listTree _ | .setUmask _ => True
  | .mkdir p _ => LexArg dp p
  | .mkdirAll _ _ => False                 -- handled separately (`mkdirAllK_lex`)
  | .createWrite p _ _ => LexArg dp p
  | .link old new => LexArg dp old ∧ LexArg dp new
  | .symlink _ _ => False
  | .mknod p k _ _ => LexArg dp p ∧ k ≠ .sym
  | .chown p _ _ _ => LexArg dp p
  | .chmod p _ => LexArg dp p
  | .setxattr p _ _ _ => LexArg dp p
  | .utimes p _ _ => LexArg dp p
  | .removeAll p => LexArg dp p ∧ pathComps p ≠ dp
  | .mkdtemp dir pfx => LexArg dp (join dir (pfx ++ b!"0000000000"))
  | .chroot _ => False

theorem SysLex.creates {dp : Path} {s : Sys} {p : Str} {k : Kind} (hs : SysLex dp s) (hc : s.Creates p k) :
    LexArg dp p ∧ k ≠ .sym := by
  cases hc with
  | mkdir | createWrite | mkdtemp => exact ⟨hs, nofun⟩
  | symlink => exact hs.elim
  | mknod => exact hs

theorem SysLex.alters {dp : Path} {s : Sys} {p : Str} (hs : SysLex dp s) (ha : s.Alters p) : LexArg dp p := by
  cases ha <;> exact hs

theorem StepEff.lex {dp : Path} {w w' : World} {s : Sys} (h : LInv dp w) (hs : SysLex dp s) (he : StepEff w s w') :
    LStepOK dp w w' := by
  cases he with
  | same => exact .same dp w h
  | umask => exact ⟨.refl _ _, ⟨h.root, h.nosym, h.fresh, h.dest, h.names, h.tree, h.dirone⟩⟩
  | chroot => exact hs.elim
  | create hc hq hn hpd hk =>
    obtain ⟨ha, hks⟩ := hs.creates hc
    obtain rfl := hq.lexical h.root h.nosym ha.2
    exact .create dp w h _ _ ha.under hn (hk ▸ hks) ha.norm hpd
  | write ha hq hl hi hk =>
    have ha := hs.alters ha
    obtain rfl := hq.lexical h.root h.nosym ha.2
    exact .setInode dp w h _ _ _ _ ha.under hl hi hk
  | link hqo hqn hl hnd hn hpd =>
    obtain rfl := hqo.lexical h.root h.nosym hs.1.2
    obtain rfl := hqn.lexical h.root h.nosym hs.2.2
    exact ⟨addName_confined dp w.fs _ _ _ hn hs.2.under (h.parent_under hs.2.under hn) hl hs.1.under,
      ⟨h.root, h.nosym.of_kindsFrom (kindsFrom_addName _ w.fs _ _ _ hn hl), h.fresh.addName _ _ _ hn hl,
       (extends_addName w.fs _ _ hn).isDir_mono h.dest, h.names.addName _ _ hn hs.2.norm, h.tree.addName _ _ _ hn hl hpd,
       h.dirone.addName _ _ _ hn hl hnd⟩⟩
  | remove hq =>
    obtain rfl := hq.lexical h.root h.nosym hs.1.2
    exact ⟨removeSubtree_confined dp w.fs _ hs.1.under (under_dropLast hs.1.under hs.2),
      ⟨h.root, h.nosym.of_kindsFrom (kindsFrom_removeSubtree _ w.fs _), h.fresh.removeSubtree _,
       dirKept_removeSubtree dp w.fs _ hs.1.under hs.2 h.dest, h.names.removeSubtree _, h.tree.removeSubtree _,
       h.dirone.removeSubtree _⟩⟩
  | clear hq =>
    -- the thread root is "/": then `dp`, a prefix of the removed path, is "/" too, which `SysLex` excludes
    have e := hq.lexical h.root h.nosym hs.1.2
    exact absurd (List.prefix_nil.mp (h.root ▸ e ▸ hs.1.1)).symm (h.root ▸ e ▸ hs.2)

/-- **a lexically confined system call is physically confined** (no symbolic links, thread root "/") -/
theorem step_lex (dp : Path) (w : World) (s : Sys) (h : LInv dp w) (hs : SysLex dp s) :
    LStepOK dp w (step w s).2 := by
  rcases step_eff w s with he | ⟨p, perm, rfl⟩
  · exact he.lex h hs
  · exact hs.elim

/-! ### `os.MkdirAll` on a path lexically beneath the destination
  The recursion towards the parents stops at the destination (which exists), so nothing outside it is created. -/

/-- All that `mkdirOne_above` needs of the paths at and above the destination: they have names, and `mkdir` of an
    existing name changes nothing.  `Chain` (`LexProg`) says that they are directories; `LW.chainNames` leads here. -/
def ChainNames (dp : Path) (fs : FS) : Prop := ∀ pre, pre <+: dp → (fs.lookup pre).isSome = true

theorem chainNames_step {dp : Path} {w w' : World} (hc : ChainNames dp w.fs) (hs : LStepOK dp w w') :
    ChainNames dp w'.fs := by
  intro pre hpre
  by_cases he : pre = dp
  · rw [he]; exact hs.2.dest_some
  · rw [hs.1.names_out pre (not_under_of_under (List.isPrefixOf_iff_prefix.mpr hpre) (Ne.symm he))]
    exact hc pre hpre

theorem mkdirOne_above (dp : Path) (w : World) (p : Str) (perm : Nat) (h : LInv dp w) (hc : ChainNames dp w.fs)
    (hdd : dotdot ∉ pathComps p) (hab : pathComps p <+: dp) : (mkdirOne w p perm).2 = w := by
  unfold mkdirOne
  split
  · rfl
  · rename_i q hq
    have e := resolveC_lexical w h.root h.nosym p q hdd hq
    have hs := hc q (by rw [e]; exact hab)
    rw [if_pos hs]

theorem mkdirOne_cmp (dp : Path) (w : World) (p : Str) (perm : Nat) (h : LInv dp w) (hc : ChainNames dp w.fs)
    (hdd : dotdot ∉ pathComps p) (hcmp : dp <+: pathComps p ∨ pathComps p <+: dp) :
    LStepOK dp w (mkdirOne w p perm).2 ∧ ChainNames dp (mkdirOne w p perm).2.fs := by
  have hm : LStepOK dp w (mkdirOne w p perm).2 := by
    rcases hcmp with hcmp | hcmp
    · exact (mkdirOne_eff w p perm).lex (s := .mkdir p perm) h ⟨hcmp, hdd⟩
    · rw [mkdirOne_above dp w p perm h hc hdd hcmp]
      exact .same dp w h
  exact ⟨hm, chainNames_step hc hm⟩

theorem cmp_of_prefix {dp a b : Path} (hab : a <+: b) (hdd : dotdot ∉ b) (hcmp : dp <+: b ∨ b <+: dp) :
    dotdot ∉ a ∧ (dp <+: a ∨ a <+: dp) :=
  ⟨fun hm => hdd (hab.subset hm), hcmp.elim (fun h => List.prefix_or_prefix_of_prefix h hab) (fun h => .inr (hab.trans h))⟩

theorem mkdirAllK_lex (dp : Path) : ∀ (fuel : Nat) (w : World) (p : Str) (perm : Nat),
    LInv dp w → ChainNames dp w.fs → dotdot ∉ pathComps p → (dp <+: pathComps p ∨ pathComps p <+: dp) →
    LStepOK dp w (mkdirAllK fuel w p perm).2 ∧ ChainNames dp (mkdirAllK fuel w p perm).2.fs := by
  intro fuel w p perm h hc hdd hcmp
  refine mkdirAllK_inv (fun w' => LStepOK dp w w' ∧ ChainNames dp w'.fs) p perm ?_ fuel w p List.prefix_rfl
    ⟨.same dp w h, hc⟩
  intro w1 p' hp' ⟨h1, hc1⟩
  obtain ⟨hdd', hcmp'⟩ := cmp_of_prefix hp' hdd hcmp
  have hm := mkdirOne_cmp dp w1 p' perm h1.2 hc1 hdd' hcmp'
  exact ⟨h1.trans hm.1, hm.2⟩

end GA
