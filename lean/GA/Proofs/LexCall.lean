import GA.Proofs.LexUnpack
/-
  One system call on a path lexically beneath the destination, in a symlink-free world: its answer and what it leaves
  at the path.  Where `StepEff` says what a call can do to the world at all, this module and `LexNames` say what it
  did, given how it answered.  Calls that only look leave the world alone, and `lstat` / `stat` answer for the
  object the path names, whatever the flag (`statRes_lex`, `stat_obj`).  The statements are written in `Obj dp path R`
  (the path names an inode whose record satisfies `R`), `Absent` and the frame of one call, `Frame i w0 w`: same
  names, and no inode but `i` differs.  The other calls come in two shapes: those that send the inode the path names
  through a function (`ModBy`, with `ObjF`: `Obj` at inode `i`, and `Frame i w0`) and those that make a new name
  (`new_step`, with `Made`: it is a new inode, and the names are those of `w` and this one).
-/
namespace GA

theorem run_sys_bind {β : Type} (s : Sys) (f : Res → Prog β) (w : World) :
    (sys s >>= f).run w = (f (step w s).1).run (step w s).2 := rfl

theorem lstat_world (w : World) (p : Str) : (step w (.lstat p)).2 = w := rstep_pure w (.lstat p)

theorem stat_world (w : World) (p : Str) : (step w (.stat p)).2 = w := rstep_pure w (.stat p)

theorem listTree_world (w : World) (p : Str) : (step w (.listTree p)).2 = w := rstep_pure w (.listTree p)

theorem walk_flag_irrelevant (fs : FS) (root : Path) (hns : NoSym fs) :
    ∀ (fuel links : Nat) (cur : Path) (cs : List Str) (fl fl' : Bool),
      walk fs root fuel links cur cs fl = walk fs root fuel links cur cs fl'
  | _, _, _, [], _, _ => by simp only [walk]
  | 0, _, _, _ :: _, _, _ => by simp only [walk]
  | fuel + 1, links, cur, c :: rest, fl, fl' => by
    have ih := fun l cu cs => walk_flag_irrelevant fs root hns fuel l cu cs fl fl'
    unfold walk
    -- the flag matters only at a symbolic link, and there is none
    cases hg : fs.get (cur ++ [c]) with
    | none => simp only [ih, hg]
    | some n =>
      have hk : (n.kind == Kind.sym) = false := by simpa using hns _ n hg
      simp only [hg, hk, Bool.false_and, Bool.false_eq_true, if_false, ih]

theorem resolve_flag_irrelevant (w : World) (hns : NoSym w.fs) (s : Str) (fl fl' : Bool) :
    resolve w s fl = resolve w s fl' := by
  unfold resolve
  simp only
  rw [walk_flag_irrelevant w.fs w.root hns walkFuel 40 w.root (pathComps s) (fl || mustDir s) (fl' || mustDir s)]

theorem statRes_lex (dp : Path) (w : World) (hw : LW dp w) (p : Str) (hp : LexArg dp p) (fl : Bool) :
    (∃ e, (∀ fl', resolve w p fl' = .err e) ∧ statRes w p fl = .err e) ∨
    ((∀ fl', resolve w p fl' = .ok (pathComps p)) ∧
      ((w.fs.lookup (pathComps p) = none ∧ statRes w p fl = .err .ENOENT) ∨
       ∃ i n, w.fs.lookup (pathComps p) = some i ∧ w.fs.inode i = some n ∧ statRes w p fl = .stat (statOf w.fs i n))) := by
  unfold statRes
  cases hr : resolve w p fl with
  | err e => exact .inl ⟨e, fun fl' => (resolve_flag_irrelevant w hw.inv.nosym p fl' fl).trans hr, rfl⟩
  | ok q =>
    have hq := resolve_lexical w hw.inv.root hw.inv.nosym p fl q hp.2 hr
    subst hq
    refine .inr ⟨fun fl' => (resolve_flag_irrelevant w hw.inv.nosym p fl' fl).trans hr, ?_⟩
    dsimp only
    cases hl : w.fs.lookup (pathComps p) with
    | none => exact .inl ⟨rfl, rfl⟩
    | some i =>
      have := hw.inv.tree.has_inode _ i hl
      dsimp only
      cases hi : w.fs.inode i with
      | none => rw [hi] at this; cases this
      | some n => exact .inr ⟨i, n, rfl, hi, rfl⟩

/-- nothing the calls of `createTarFile` could trip over: no name, or no way to it -/
def Absent (p : Str) (w : World) : Prop := w.fs.lookup (pathComps p) = none ∨ ∃ er, resolve w p true = .err er

theorem lstat_nostat (dp : Path) (w : World) (hw : LW dp w) (p : Str) (hp : LexArg dp p)
    (hl : ∀ s, (step w (.lstat p)).1 ≠ .stat s) : Absent p w := by
  rcases statRes_lex dp w hw p hp false with ⟨e, hres, _⟩ | ⟨_, ⟨hnone, _⟩ | ⟨_, _, _, _, hs⟩⟩
  · exact .inr ⟨e, hres true⟩
  · exact .inl hnone
  · exact absurd hs (hl _)

theorem stat_obj (dp : Path) (w : World) (hw : LW dp w) (p : Str) (hp : LexArg dp p) (fl : Bool) (s : StatInfo)
    (h : statRes w p fl = .stat s) :
    ∃ i n, w.fs.lookup (pathComps p) = some i ∧ w.fs.inode i = some n ∧ s = statOf w.fs i n := by
  rcases statRes_lex dp w hw p hp fl with ⟨e, _, hs⟩ | ⟨_, ⟨_, hs⟩ | ⟨i, n, hl, hi, hs⟩⟩ <;> rw [hs] at h
  · cases h
  · cases h
  · cases h
    exact ⟨i, n, hl, hi, rfl⟩

theorem lstat_isDir (dp : Path) (w : World) (hw : LW dp w) (p : Str) (hp : LexArg dp p)
    (h : isDirRes (step w (.lstat p)).1 = true) :
    ∃ i n, w.fs.lookup (pathComps p) = some i ∧ w.fs.inode i = some n ∧ n.kind = .dir := by
  cases hs : (step w (.lstat p)).1 with
  | stat s =>
    obtain ⟨i, n, hl, hi, rfl⟩ := stat_obj dp w hw p hp false s hs
    exact ⟨i, n, hl, hi, by simpa [hs, isDirRes, statOf] using h⟩
  | _ => rw [hs] at h; cases h

def Obj (dp : Path) (path : Str) (R : Inode → Prop) (w : World) : Prop :=
  LW dp w ∧ ∃ i n, w.fs.lookup (pathComps path) = some i ∧ w.fs.inode i = some n ∧ R n

theorem Obj.mono {dp : Path} {path : Str} {R R' : Inode → Prop} {w : World} (h : Obj dp path R w)
    (hr : ∀ n, R n → R' n) : Obj dp path R' w := by
  obtain ⟨hw, i, n, hl, hi, hn⟩ := h
  exact ⟨hw, i, n, hl, hi, hr n hn⟩

def Frame (i : Ino) (w0 w : World) : Prop :=
  (∀ p, w.fs.lookup p = w0.fs.lookup p) ∧ (∀ j, j ≠ i → w.fs.inode j = w0.fs.inode j)

theorem Frame.refl (i : Ino) (w : World) : Frame i w w := ⟨fun _ => rfl, fun _ _ => rfl⟩

theorem Frame.trans {i : Ino} {a b c : World} (h1 : Frame i a b) (h2 : Frame i b c) : Frame i a c :=
  ⟨fun p => (h2.1 p).trans (h1.1 p), fun j hj => (h2.2 j hj).trans (h1.2 j hj)⟩

theorem frame_modInode (i : Ino) (w : World) (f : Inode → Inode) : Frame i w { w with fs := w.fs.modInode i f } :=
  ⟨fun p => lookup_modInode w.fs i f p, fun j hj => inode_modInode_ne w.fs i j f hj⟩

def ObjF (dp : Path) (path : Str) (i : Ino) (w0 : World) (R : Inode → Prop) (w : World) : Prop :=
  LW dp w ∧ w.fs.lookup (pathComps path) = some i ∧ (∃ n, w.fs.inode i = some n ∧ R n) ∧ Frame i w0 w

theorem ObjF.mono {dp : Path} {path : Str} {i : Ino} {w0 : World} {R R' : Inode → Prop} {w : World}
    (h : ObjF dp path i w0 R w) (hr : ∀ n, R n → R' n) : ObjF dp path i w0 R' w := by
  obtain ⟨hw, hl, ⟨n, hi, hn⟩, hf⟩ := h
  exact ⟨hw, hl, ⟨n, hi, hr n hn⟩, hf⟩

theorem ObjF.obj {dp : Path} {path : Str} {i : Ino} {w0 : World} {R : Inode → Prop} {w : World}
    (h : ObjF dp path i w0 R w) : Obj dp path R w := by
  obtain ⟨hw, hl, ⟨n, hi, hn⟩, _⟩ := h
  exact ⟨hw, i, n, hl, hi, hn⟩

theorem Obj.objF {dp : Path} {path : Str} {R : Inode → Prop} {w : World} (h : Obj dp path R w) :
    ∃ i, ObjF dp path i w R w := by
  obtain ⟨hw, i, n, hl, hi, hn⟩ := h
  exact ⟨i, hw, hl, ⟨n, hi, hn⟩, Frame.refl i w⟩

inductive ModBy (path : Str) : Sys → (Inode → Inode) → Prop
  | chown (u g : Nat) (fl : Bool) : ModBy path (.chown path u g fl) (fun n => chownInode n u g)
  | chmod (perm : Nat) : ModBy path (.chmod path perm) (fun n => { n with perm := perm &&& 0o7777 })
  | utimes (t : Int) (fl : Bool) : ModBy path (.utimes path (some t) fl) (fun n => { n with mtime := some t })
  | setxattr (k : Str) (v : List UInt8) (fl : Bool) :
      ModBy path (.setxattr path k v fl) (fun n => { n with xattrs := setX n.xattrs k v })

theorem ModBy.metaOn {path : Str} {s : Sys} {f : Inode → Inode} (h : ModBy path s f) : MetaOn path s := by
  cases h
  · exact .chown _ _ _
  · exact .chmod _
  · exact .utimes _ _
  · exact .setxattr _ _ _

theorem step_path_mod (dp : Path) (path : Str) (hp : LexArg dp path) (w : World) (hw : LW dp w) (i : Ino)
    (hl : w.fs.lookup (pathComps path) = some i) (fl : Bool) {α : Type} (k : Path → α) (e : Errno → α)
    (res : α) (hres : res = match resolve w path fl with | .err x => e x | .ok q => k q) :
    res = k (pathComps path) ∨ ∃ x, res = e x := by
  cases hr : resolve w path fl with
  | err x => right; exact ⟨x, by rw [hres, hr]⟩
  | ok q =>
    left
    have := resolve_lexical w hw.inv.root hw.inv.nosym path fl q hp.2 hr
    rw [hres, hr, this]

/-- the shape these calls share in `step`: the path resolves, it names an inode `i`, and what follows (`K i`) either
    refuses or sends that inode through `f` -/
theorem mod_shape (w : World) (path : Str) (f : Inode → Inode) (fl : Bool) (K : Ino → Res × World)
    (hK : ∀ i, (∃ e, K i = (.err e, w)) ∨ K i = (.ok, { w with fs := w.fs.modInode i f })) (x : Res × World)
    (hx : x = match resolve w path fl with
      | .err e => (.err e, w)
      | .ok q => match w.fs.lookup q with
        | none => (.err .ENOENT, w)
        | some i => K i) :
    (∃ e, x = (.err e, w)) ∨
    ∃ fl q i, resolve w path fl = .ok q ∧ w.fs.lookup q = some i ∧ x = (.ok, { w with fs := w.fs.modInode i f }) := by
  subst hx
  cases hr : resolve w path fl with
  | err e => exact .inl ⟨e, rfl⟩
  | ok q =>
    dsimp only
    cases hl : w.fs.lookup q with
    | none => exact .inl ⟨.ENOENT, rfl⟩
    | some i => exact (hK i).imp id fun h => ⟨fl, q, i, hr, hl, h⟩

theorem ModBy.effect {path : Str} {s : Sys} {f : Inode → Inode} (h : ModBy path s f) (w : World) :
    (∃ e, step w s = (.err e, w)) ∨
    ∃ fl q i, resolve w path fl = .ok q ∧ w.fs.lookup q = some i ∧ step w s = (.ok, { w with fs := w.fs.modInode i f }) := by
  cases h with
  | chown u g fl => exact mod_shape w path _ fl _ (fun _ => .inr rfl) _ rfl
  | chmod perm => exact mod_shape w path _ true _ (fun _ => .inr rfl) _ rfl
  | utimes t fl => exact mod_shape w path _ fl _ (fun _ => .inr rfl) _ rfl
  | setxattr k v fl =>
    refine mod_shape w path _ fl _ (fun i => ?_) _ rfl
    -- `lsetxattr` looks at the inode before it writes: a `user.` attribute only on a file or a directory
    unfold FS.modInode
    cases w.fs.inode i with
    | none => exact .inl ⟨_, rfl⟩
    | some n =>
      dsimp only
      split
      · exact .inl ⟨_, rfl⟩
      · exact .inr rfl

theorem ModBy.lookup_kept {path : Str} {s : Sys} {f : Inode → Inode} (h : ModBy path s f) (w : World) (q : Path) :
    (step w s).2.fs.lookup q = w.fs.lookup q := by
  rcases h.effect w with ⟨e, he⟩ | ⟨_, _, i, _, _, he⟩ <;> rw [he]
  exact lookup_modInode w.fs i f q

theorem ModBy.step {dp : Path} {path : Str} {s : Sys} {f : Inode → Inode} (h : ModBy path s f) (hp : LexArg dp path)
    (w : World) (hw : LW dp w) :
    (∃ i, w.fs.lookup (pathComps path) = some i ∧ step w s = (.ok, { w with fs := w.fs.modInode i f })) ∨
      ((step w s).2 = w ∧ isErr (step w s).1 = true) := by
  rcases h.effect w with ⟨e, he⟩ | ⟨fl, q, j, hr, hj, he⟩
  · rw [he]; exact .inr ⟨rfl, rfl⟩
  · rw [resolve_lexical w hw.inv.root hw.inv.nosym path fl q hp.2 hr] at hj
    exact .inl ⟨j, hj, he⟩

theorem modF (dp : Path) (path : Str) (hp : LexArg dp path) (i : Ino) (w0 : World) {s : Sys} {f : Inode → Inode}
    (hs : ModBy path s f) (R : Inode → Prop) :
    Triple (ObjF dp path i w0 R) (sys s)
      (fun r w' => (isErr r = true → ObjF dp path i w0 R w') ∧
        (isErr r = false → ObjF dp path i w0 (fun n' => ∃ n, R n ∧ n' = f n) w')) := by
  apply Triple.sys
  intro w ⟨hw, hl, ⟨n, hi, hn⟩, hf⟩
  have hgood := step_good dp w s hw (good_lex (hs.metaOn.lex hp))
  rcases hs.step hp w hw with ⟨j, hj, he⟩ | ⟨he, herr⟩
  · obtain rfl : i = j := Option.some.inj (hl.symm.trans hj)
    rw [he]
    refine ⟨fun h => by simp [isErr] at h, fun _ => ?_⟩
    rw [he] at hgood
    exact ⟨hgood.2, by simp only; rw [lookup_modInode]; exact hl, ⟨f n, inode_modInode_self w.fs i f n hi, n, hn, rfl⟩,
      hf.trans (frame_modInode i w f)⟩
  · refine ⟨fun _ => ?_, fun h => by rw [herr] at h; cases h⟩
    rw [he]; exact ⟨hw, hl, ⟨n, hi, hn⟩, hf⟩

theorem mod_effect (dp : Path) (path : Str) (hp : LexArg dp path) {s : Sys} {f : Inode → Inode} (hs : ModBy path s f)
    (R : Inode → Prop) :
    Triple (Obj dp path R) (sys s)
      (fun r w' => (isErr r = true → Obj dp path R w') ∧
        (isErr r = false → Obj dp path (fun n' => ∃ n, R n ∧ n' = f n) w')) := by
  intro w h
  obtain ⟨i, hF⟩ := h.objF
  have := modF dp path hp i w hs R w hF
  exact ⟨fun h => (this.1 h).obj, fun h => (this.2 h).obj⟩

def Made (dp : Path) (path : Str) (R : Inode → Prop) (w w' : World) : Prop :=
  LW dp w' ∧ (∀ r, w'.fs.lookup r = if r = pathComps path then some w.fs.next else w.fs.lookup r) ∧
    ∃ n, w'.fs.inode w.fs.next = some n ∧ R n

namespace Made
variable {dp : Path} {path : Str} {R R' : Inode → Prop} {w w1 w' : World}

theorem objF (h : Made dp path R w w') : ObjF dp path w.fs.next w' R w' :=
  ⟨h.1, by rw [h.2.1, if_pos rfl], h.2.2, Frame.refl _ _⟩

theorem obj (h : Made dp path R w w') : Obj dp path R w' := h.objF.obj

/-- what is then done to the new inode alone leaves it the new inode of that name -/
theorem after (h : Made dp path R w w1) (h' : ObjF dp path w.fs.next w1 R' w') : Made dp path R' w w' :=
  ⟨h'.1, fun r => (h'.2.2.2.1 r).trans (h.2.1 r), h'.2.2.1⟩

/-- the new inode has no other name: every older name binds an older inode -/
theorem sole (h : Made dp path R w w') (hw : LW dp w) (q : Path) (hq : w'.fs.lookup q = some w.fs.next) :
    q = pathComps path := by
  rw [h.2.1] at hq
  by_cases hqp : q = pathComps path
  · exact hqp
  · rw [if_neg hqp] at hq
    exact absurd (hw.inv.fresh q _ hq) (Nat.lt_irrefl _)

theorem post (h : Made dp path R w w') (hw : LW dp w) :
    LW dp w' ∧ ∃ i n, w'.fs.lookup (pathComps path) = some i ∧ (∀ q, w'.fs.lookup q = some i → q = pathComps path) ∧
      w'.fs.inode i = some n ∧ R n := by
  obtain ⟨n, hi, hn⟩ := h.2.2
  exact ⟨h.1, _, n, by rw [h.2.1, if_pos rfl], h.sole hw, hi, hn⟩

end Made

theorem made_of_create (dp : Path) (path : Str) (hp : LexArg dp path) (w : World) (hw : LW dp w)
    (hnone : w.fs.lookup (pathComps path) = none) (n0 : Inode) (s : Sys) (hs : SysLex dp s)
    (hst : step w s = (.ok, { w with fs := w.fs.create (pathComps path) n0 })) {R : Inode → Prop} (hR : R n0) :
    Made dp path R w (step w s).2 := by
  have hgood := step_good dp w s hw (good_lex hs)
  -- the path is not the root: the destination exists
  have hqne : pathComps path ≠ [] := by
    intro e
    have hdp : dp = [] := List.prefix_nil.mp (e ▸ hp.1)
    have := hw.inv.dest_some
    rw [hdp, ← e, hnone] at this
    cases this
  rw [hst] at hgood ⊢
  exact ⟨hgood.2, lookup_create w.fs _ n0 hnone, n0, inode_create_new w.fs _ n0 hnone hw.inv.fresh hqne, hR⟩

/-- the shape `mkdir` and `mknod` share in `step`: every refusal answers with an error -/
theorem new_step (dp : Path) (path : Str) (hp : LexArg dp path) (w : World) (hw : LW dp w) (s : Sys) (mk : Path → Inode)
    (hx : step w s = match resolveC w path with
      | .err e => (.err e, w)
      | .ok q =>
        if (w.fs.lookup q).isSome then (.err .EEXIST, w)
        else if !w.fs.isDir q.dropLast then (.err .ENOENT, w)
        else (.ok, { w with fs := w.fs.create q (mk q) }))
    (hr : isErr (step w s).1 = false) :
    w.fs.lookup (pathComps path) = none ∧
      step w s = (.ok, { w with fs := w.fs.create (pathComps path) (mk (pathComps path)) }) := by
  rw [hx] at hr ⊢
  cases hres : resolveC w path with
  | err e => rw [hres] at hr; cases hr
  | ok q =>
    obtain rfl := resolveC_lexical w hw.inv.root hw.inv.nosym path q hp.2 hres
    rw [hres] at hr
    dsimp only at hr ⊢
    by_cases hex : (w.fs.lookup (pathComps path)).isSome = true
    · rw [if_pos hex] at hr; cases hr
    · by_cases hdir : (!w.fs.isDir (pathComps path).dropLast) = true
      · rw [if_neg hex, if_pos hdir] at hr; cases hr
      · rw [if_neg hex, if_neg hdir]
        exact ⟨Option.not_isSome_iff_eq_none.mp hex, rfl⟩

/-- `mkdir` refuses an existing name -/
theorem mkdir_made (dp : Path) (path : Str) (hp : LexArg dp path) (mode : Nat) (w : World) (hw : LW dp w)
    (hr : isErr (step w (.mkdir path mode)).1 = false) :
    w.fs.lookup (pathComps path) = none ∧ Made dp path (fun n => n.kind = .dir) w (step w (.mkdir path mode)).2 := by
  obtain ⟨hnone, hst⟩ := new_step dp path hp w hw (.mkdir path mode) (fun q =>
    { kind := .dir, perm := (inheritFrom w.fs q.dropLast true (mode &&& 0o1777 &&& (0o7777 - w.umask))).2, uid := 0,
      gid := (inheritFrom w.fs q.dropLast true (mode &&& 0o1777 &&& (0o7777 - w.umask))).1, mtime := none }) rfl hr
  exact ⟨hnone, made_of_create dp path hp w hw hnone _ (.mkdir path mode) hp hst rfl⟩

theorem mkdir_fresh (dp : Path) (path : Str) (hp : LexArg dp path) (mode : Nat) (w : World) (hw : LW dp w)
    (hr : isErr (step w (.mkdir path mode)).1 = false) :
    ∃ i, ObjF dp path i (step w (.mkdir path mode)).2 (fun n => n.kind = .dir) (step w (.mkdir path mode)).2 :=
  ⟨_, (mkdir_made dp path hp mode w hw hr).2.objF⟩

def mknodInode (w : World) (k : Kind) (mode : Nat) (rdev : Nat × Nat) (q : Path) : Inode :=
  { kind := k, perm := mode &&& 0o7777 &&& (0o7777 - w.umask), uid := 0,
    gid := (inheritFrom w.fs q.dropLast false (mode &&& 0o7777 &&& (0o7777 - w.umask))).1, mtime := none,
    rdev := if k == .fifo then (0, 0) else rdev }

theorem mknod_step (dp : Path) (path : Str) (hp : LexArg dp path) (k : Kind) (mode : Nat) (rdev : Nat × Nat)
    (w : World) (hw : LW dp w) (hr : isErr (step w (.mknod path k mode rdev)).1 = false) :
    w.fs.lookup (pathComps path) = none ∧ step w (.mknod path k mode rdev) =
      (.ok, { w with fs := w.fs.create (pathComps path) (mknodInode w k mode rdev (pathComps path)) }) :=
  new_step dp path hp w hw _ (mknodInode w k mode rdev) rfl hr

theorem mknod_fresh (dp : Path) (path : Str) (hp : LexArg dp path) (k : Kind) (mode : Nat) (rdev : Nat × Nat)
    (w : World) (hw : LW dp w) (hr : isErr (step w (.mknod path k mode rdev)).1 = false) :
    w.fs.lookup (pathComps path) = none ∧
    ∀ r, (step w (.mknod path k mode rdev)).2.fs.lookup r = if r = pathComps path then some w.fs.next else w.fs.lookup r := by
  obtain ⟨hnone, hst⟩ := mknod_step dp path hp k mode rdev w hw hr
  exact ⟨hnone, fun r => by rw [hst]; exact lookup_create w.fs _ _ hnone r⟩

theorem mknod_made (dp : Path) (path : Str) (hp : LexArg dp path) (k : Kind) (hk : k ≠ .sym) (mode : Nat) (rdev : Nat × Nat)
    (w : World) (hw : LW dp w) (hr : isErr (step w (.mknod path k mode rdev)).1 = false) :
    w.fs.lookup (pathComps path) = none ∧ Made dp path
      (fun n => n.kind = k ∧ n.rdev = (if k == .fifo then (0, 0) else rdev)) w (step w (.mknod path k mode rdev)).2 := by
  obtain ⟨hnone, hst⟩ := mknod_step dp path hp k mode rdev w hw hr
  exact ⟨hnone, made_of_create dp path hp w hw hnone _ (.mknod path k mode rdev) ⟨hp, hk⟩ hst ⟨rfl, rfl⟩⟩

/-- the open-for-write of `createTarFile` does not refuse an existing name: it has to be absent beforehand -/
theorem createWrite_made (dp : Path) (path : Str) (hp : LexArg dp path) (mode : Nat) (body : List UInt8) (w : World)
    (hw : LW dp w) (habs : Absent path w) (hr : isErr (step w (.createWrite path mode body)).1 = false) :
    Made dp path (fun n => n.kind = .reg ∧ n.data = body) w (step w (.createWrite path mode body)).2 := by
  cases hres : resolve w path true with
  | err e =>
    have : step w (.createWrite path mode body) = (.err e, w) := by simp only [step, hres]
    rw [this] at hr; cases hr
  | ok q =>
    have hnone : w.fs.lookup (pathComps path) = none := habs.resolve_right fun ⟨er, her⟩ => by rw [hres] at her; cases her
    obtain rfl := resolve_lexical w hw.inv.root hw.inv.nosym path true q hp.2 hres
    by_cases hdir : (!w.fs.isDir (pathComps path).dropLast) = true
    · have : step w (.createWrite path mode body) = (.err .ENOENT, w) := by simp only [step, hres, hnone, hdir, if_true]
      rw [this] at hr; cases hr
    · have hst : ∃ n0 : Inode, (n0.kind = .reg ∧ n0.data = body) ∧
          step w (.createWrite path mode body) = (.ok, { w with fs := w.fs.create (pathComps path) n0 }) := by
        simp only [step, hres, hnone, hdir, Bool.false_eq_true, if_false]
        exact ⟨_, ⟨rfl, rfl⟩, rfl⟩
      obtain ⟨n0, hR, hst⟩ := hst
      exact made_of_create dp path hp w hw hnone n0 (.createWrite path mode body) hp hst hR

theorem mkdir_existing (dp : Path) (path : Str) (hp : LexArg dp path) (w : World) (hw : LW dp w) (i : Ino)
    (hl : w.fs.lookup (pathComps path) = some i) (perm : Nat) : isErr (step w (.mkdir path perm)).1 = true := by
  cases h : isErr (step w (.mkdir path perm)).1 with
  | true => rfl
  | false =>
    rw [(mkdir_made dp path hp perm w hw h).1] at hl
    cases hl

end GA
