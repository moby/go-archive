import GA.Proofs.LexUnpack
import GA.Proofs.LayerWalk
/-
  Layer apply (`unpackLayerP`) in a symlink-free world: whiteouts, opaque markers with their walk, the
  staging area — every mutating call is lexically beneath the destination.  For one iteration this is read off
  the walk of LayerWalk.lean: `StageOn.lex` and `EntryOn.lex` give, call by call, the reason why it is good
  (`lex_iterL`, then `lex_layerLoop`, `lex_applyLayer`), with `LStOK` for what they need of the loop state.  Before
  that the kernel's sorted listing, for the opaque walk: every item `listTree` answers is a cleaned path at or
  beneath the listed directory, and only the first is that directory (`listFrom_items`, `listTree_items`).
-/
namespace GA

theorem mem_insertSorted (x : Str) : ∀ (l : List Str) (y : Str), y ∈ insertSorted x l → y = x ∨ y ∈ l := by
  intro l y
  fun_induction insertSorted x l
  case case1 => exact fun h => .inl (List.mem_singleton.mp h)
  case case2 => exact List.mem_cons.mp
  case case3 ih =>
    intro h
    rcases List.mem_cons.mp h with rfl | h
    · exact .inr List.mem_cons_self
    · exact (ih h).imp_right (List.mem_cons_of_mem _)

theorem mem_sortStrs : ∀ (l : List Str) (y : Str), y ∈ sortStrs l → y ∈ l
  | [], y, h => by simp [sortStrs] at h
  | a :: as, y, h => by
    simp only [sortStrs, List.foldr_cons] at h
    rcases mem_insertSorted a _ y h with rfl | h
    · simp
    · exact List.mem_cons_of_mem _ (mem_sortStrs as y h)

theorem lookup_some_of_mem (fs : FS) (e : Path × Ino) (h : e ∈ fs.names) : ∃ i, fs.lookup e.1 = some i := by
  unfold FS.lookup
  cases hf : List.find? (fun x => x.1 == e.1) fs.names with
  | some x => exact ⟨x.2, rfl⟩
  | none => exact absurd (by simp) (List.find?_eq_none.mp hf e h)

theorem children_norm (fs : FS) (hwf : NameWF fs) (p : Path) (c : Str) (h : c ∈ fs.children p) : Norm c := by
  unfold FS.children at h
  simp only [List.mem_filterMap] at h
  obtain ⟨e, he, hc⟩ := h
  split at hc
  · obtain ⟨i, hl⟩ := lookup_some_of_mem fs e he
    cases hgl : e.1.getLast? with
    | none => rw [hgl] at hc; cases hc
    | some x =>
      rw [hgl] at hc
      injection hc with hc
      subst hc
      exact hwf e.1 i hl x (List.mem_of_getLast? hgl)
  · cases hc

theorem join_child {d c : Str} (hd : CleanAbs d) (hc : Norm c) :
    CleanAbs (join d c) ∧ pathComps (join d c) = pathComps d ++ [c] := by
  obtain ⟨cs, hcs, rfl, hsc⟩ := hd.comps
  have hcs' : ∀ x ∈ cs ++ [c], Norm x := List.forall_mem_append.mpr ⟨hcs, List.forall_mem_singleton.mpr hc⟩
  have hj := join_snoc cs c hcs hc
  exact ⟨⟨_, hcs', hj⟩, by rw [hj, pathComps_cleanAbs _ hcs', hsc]⟩

/-- every item of the listing is a cleaned absolute path at or beneath the listed directory; only the
    first names the directory itself -/
theorem listFrom_items (fs : FS) (hwf : NameWF fs) : ∀ (fuel depth : Nat) (p : Path) (s : Str),
    CleanAbs s → pathComps s = p → ∀ it ∈ listFrom fs fuel depth p s,
      CleanAbs it.1 ∧ p <+: pathComps it.1 ∧ (it.1 ≠ s → pathComps it.1 ≠ p) := by
  intro fuel depth p s
  fun_induction listFrom fs fuel depth p s
  case case1 | case2 => exact fun _ _ => nofun
  case case3 p s _ _ _ ih =>
    intro hs hp it h
    rcases List.mem_cons.mp h with rfl | h
    · exact ⟨hs, hp ▸ List.prefix_refl _, fun hne => absurd rfl hne⟩
    obtain ⟨c, hc, hit⟩ := List.mem_flatMap.mp h
    obtain ⟨hjc, hjp⟩ := join_child hs (children_norm fs hwf p c (mem_sortStrs _ c hc))
    have := ih c hjc (hp ▸ hjp) it hit
    refine ⟨this.1, (List.prefix_append p [c]).trans this.2.1, fun _ hpe => ?_⟩
    have hl := this.2.1.length_le
    rw [hpe] at hl
    simp at hl
    omega
  case case4 =>
    intro hs hp it h
    rw [List.mem_singleton.mp h]
    exact ⟨hs, hp ▸ List.prefix_refl _, fun hne => absurd rfl hne⟩

theorem tmpName_norm : Norm tmpName := by
  simp [Norm, tmpName, dot, dotdot]

structure LStOK (dp : Path) (dest : Str) (st : LState) : Prop where
  dirs : ∀ e ∈ st.dirs, LexArg dp (join dest e.name)
  tmp : st.tmp = [] ∨ (CleanAbs st.tmp ∧ ∃ x, pathComps st.tmp = dp ++ [x])
  staged : ∀ x ∈ st.staged, x.2.typ ≠ .sym

theorem child_removable {dp : Path} {t x : Str} (hc : CleanAbs t) (hx : pathComps t = dp ++ [x]) :
    LexArg dp t ∧ pathComps t ≠ dp :=
  ⟨lexArg_of hc (hx ▸ List.prefix_append _ _), fun e => by simpa [hx] using congrArg List.length e⟩

theorem listTree_items (dp : Path) (w : World) (hw : LW dp w) (dr : Str) (hdr : CleanAbs dr)
    (items : List (Str × Kind × Nat)) (h : (step w (.listTree dr)).1 = .tree items) :
    ∀ it ∈ items, CleanAbs it.1 ∧ pathComps dr <+: pathComps it.1 ∧ (it.1 ≠ dr → pathComps it.1 ≠ pathComps dr) := by
  simp only [step] at h
  split at h
  · cases h
  · rename_i q hq
    have hqe : q = pathComps dr := resolve_lexical w hw.inv.root hw.inv.nosym dr false q hdr.no_dotdot hq
    split at h
    · cases h
    · injection h with h
      subst h
      rw [hqe]
      exact listFrom_items w.fs hw.inv.names 64 0 (pathComps dr) dr hdr rfl

theorem within_of_isWithin {d t : Str} (hd : CleanAbs d) (ht : CleanAbs t) (h : isWithin d t = true) :
    pathComps d <+: pathComps t := (isWithin_iff_prefix hd ht).mp h

theorem strictly_beneath {dp : Path} {dirS q : Str} (hdr : dp <+: pathComps dirS)
    (hq : CleanAbs q ∧ pathComps dirS <+: pathComps q ∧ (q ≠ dirS → pathComps q ≠ pathComps dirS)) (hne : q ≠ dirS) :
    LexArg dp q ∧ pathComps q ≠ dp :=
  ⟨lexArg_of hq.1 (hdr.trans hq.2.1), fun e => hq.2.2 hne (e ▸ prefix_antisymm hdr (e ▸ hq.2.1))⟩

theorem lex_layerFinish (dp : Path) (dest : Str) (st : LState) (out : Out) (hst : LStOK dp dest st) :
    LexSem dp (fun _ => True) (layerFinish dest st out) :=
  LexSem.of_calls dp (fun _ ⟨hne, hs⟩ => let ⟨hc, _, hx⟩ := hst.tmp.resolve_left hne; hs ▸ child_removable hc hx) _
    (calls_layerFinish dest st out)

theorem lex_opaqueWalk (dp : Path) (dirS : Str) (unpacked : List Str) (hdr : dp <+: pathComps dirS) :
    ∀ (items : List (Str × Kind × Nat)) (skip : Option Nat),
      (∀ it ∈ items, CleanAbs it.1 ∧ pathComps dirS <+: pathComps it.1 ∧ (it.1 ≠ dirS → pathComps it.1 ≠ pathComps dirS)) →
      LexSem dp (fun _ => True) (opaqueWalkP dirS unpacked items skip) :=
  fun items skip h => LexSem.of_ans dp (fun _ h => h) _ (walk_opaqueWalk dirS unpacked items skip fun it hit hne =>
    good_lex (s := .removeAll _) (strictly_beneath hdr (h it hit) hne))

section
variable {dp : Path} {dest : Str} {o : Opts} {e : Entry} {n : Str} {st st' : LState} {s : Sys}
  (hd : CleanAbs dest) (hdp : pathComps dest = dp)
include hd hdp

theorem StagingAt.child {t : Str} (hst : LStOK dp dest st) (h : StagingAt (AnsLW dp) dest st t) :
    CleanAbs t ∧ ∃ x, pathComps t = dp ++ [x] := by
  rcases h.made_or_kept fun _ ⟨w, _, hr⟩ => ⟨w, hr.symm⟩ with rfl | ⟨hne, rfl⟩
  · obtain ⟨hc, hpc⟩ := join_child hd tmpName_norm
    exact ⟨hc, tmpName, hdp ▸ hpc⟩
  · exact hst.tmp.resolve_left hne

theorem Staged.lstOK (hst : LStOK dp dest st) (h : Staged (AnsLW dp) dest e n st st') : LStOK dp dest st' := by
  cases h with
  | skip => exact hst
  | staged hc ht =>
    refine ⟨hst.dirs, Or.inr (ht.child hd hdp hst), fun y hy => ?_⟩
    rcases List.mem_cons.mp hy with rfl | hy
    · exact fun he => nomatch (staged_reg hc).symm.trans he
    · exact hst.staged y (List.mem_filter.mp hy).1

theorem StageOn.lex (hst : LStOK dp dest st) : StageOn (AnsLW dp) dest e n st s → SysGood dp s
  | .mkdtemp _ => by
    obtain ⟨hc, hpc⟩ := join_child hd tmpName_norm
    exact good_lex (s := .mkdtemp _ _) (child_removable hc (hdp ▸ hpc)).1
  | .create hc ht hs => by
    obtain ⟨htc, x, hx⟩ := ht.child hd hdp hst
    have hjw := join_one_within dp _ (base n) x htc hx (base_shape n)
    exact good_lex (hs.lex (lexArg_of hjw.1 hjw.2) hd hdp fun he => nomatch (staged_reg hc).symm.trans he)
  | .cleanup _ ht => by
    obtain ⟨htc, x, hx⟩ := ht.child hd hdp hst
    exact good_lex (s := .removeAll _) (child_removable htc hx)

theorem IterEnd.lstOK {r : LayerRes} (hst : LStOK dp dest st) (h : IterEnd dest e st r) : LStOK dp dest (resSt r) := by
  refine ⟨fun x hx => ?_, h.tmp ▸ hst.tmp, h.staged ▸ hst.staged⟩
  rcases h.dirs with hds | ⟨hds, hg⟩ <;> rw [hds] at hx
  · exact hst.dirs x hx
  · rcases List.mem_cons.mp hx with rfl | hx
    · obtain ⟨_, hpc, hpin⟩ := guardName_ok dest _ _ hd hg
      exact lexArg_of hpc (hdp ▸ hpin)
    · exact hst.dirs x hx

theorem EntryOn.lex {p : Str} (hes : e.typ ≠ .sym) (hst : LStOK dp dest st) (hg : guardName dest (clean e.name) = .ok p)
    (h : EntryOn (AnsLW dp) dest o e st p s) : SysGood dp s := by
  obtain ⟨hpe, hpc, hpin⟩ := guardName_ok dest _ p hd hg
  rw [hdp] at hpin
  have hdrc := (dir_cleanAbs hpc).1
  cases h with
  | look r => cases r <;> exact good_lex trivial
  | implied h => exact h.lex_implied hd (hpe ▸ hpin)
  | clear _ hin ht hit hne =>
    obtain ⟨w, hw, ht⟩ := ht
    exact good_lex (s := .removeAll _) (strictly_beneath (hdp ▸ within_of_isWithin hd hdrc hin)
      (listTree_items dp w hw _ hdrc _ ht.symm _ hit) hne)
  | whiteout _ _ hin hnd =>
    have hoc := join_cleanAbs (dir p) ((base p).drop whPrefix.length) hdrc
    -- the whiteout of the destination itself was refused
    exact good_lex (s := .removeAll _) ⟨lexArg_of hoc (hdp ▸ within_of_isWithin hd hoc hin), fun e' =>
      hnd (eq_clean_dest hd hdp hoc e')⟩
  | @replace l hl hneed hguard =>
    obtain ⟨w, hw, hl⟩ := hl
    refine good_lex (s := .removeAll _) ⟨lexArg_of hpc hpin, fun hpd => hguard ?_⟩
    -- at the destination itself, `lstat` can only report a directory
    have hpeq := eq_clean_dest hd hdp hpc hpd
    cases l with
    | stat s =>
      have hk' := (stat_above dp w hw p false hpc.ne_nil hpc.no_dotdot (by rw [hpd]; exact List.prefix_refl _)).1 s
        (by simpa only [step] using hl.symm)
      simp only [needRmL, hk'] at hneed
      simp only [needRmL, hk', hpeq]
      simp at hneed ⊢
      exact hneed
    | _ => simp [needRmL] at hneed
  | @create src src' _ hsrc hrm hs =>
    refine good_lex (hs.lex (lexArg_of hpc hpin) hd hdp ?_)
    rw [remapE_typ o src src' hrm]
    rcases hsrc with rfl | ⟨x, hx, hty⟩
    · exact hes
    · exact hty ▸ hst.staged x hx

end

/-- **one iteration of `UnpackLayer` issues only good calls** (no symbolic-link entry) and keeps the state invariant -/
theorem lex_iterL (dp : Path) (dest : Str) (o : Opts) (hd : CleanAbs dest) (hdp : pathComps dest = dp)
    (e : Entry) (st0 : LState) (hes : e.typ ≠ .sym) (hst0 : LStOK dp dest st0) :
    LexSem dp (fun r => LStOK dp dest (resSt r)) (layerIterP dest o e st0) := by
  have hst1 : LStOK dp dest { st0 with size := st0.size + e.size } := ⟨hst0.dirs, hst0.tmp, hst0.staged⟩
  exact LexSem.of_ans dp (fun _ h => h) _ ((walk_layerIter dest o e st0 (fun s h => h.lex hd hdp hst1)
    fun st p hs hg s h => h.lex hd hdp hes (hs.lstOK hd hdp hst1) hg).imp
    fun r ⟨st, hs, he⟩ => he.lstOK hd hdp (hs.lstOK hd hdp hst1))

/-- **the loop of `UnpackLayer` issues only good calls** (no symbolic-link entries) -/
theorem lex_layerLoop (dp : Path) (dest : Str) (o : Opts) (hd : CleanAbs dest) (hdp : pathComps dest = dp) :
    ∀ (es : List Entry) (st : LState), (∀ e ∈ es, e.typ ≠ .sym) → LStOK dp dest st →
      LexSem dp (fun _ => True) (layerLoop dest o es st)
  | [], st, _, hst => by
    rw [layerLoop]
    exact LexSem.bind dp _ _ (lex_dirTimes dp dest _ fun e he => hst.dirs e (by simpa using he))
      fun r _ => lex_layerFinish dp dest st r hst
  | e :: es, st0, hsym, hst0 => by
    rw [layerLoop_cons]
    refine LexSem.bind dp _ _ (lex_iterL dp dest o hd hdp e st0 (hsym e (by simp)) hst0) fun r hr => ?_
    match r, hr with
    | .error (out, st), hr => exact lex_layerFinish dp dest st out hr
    | .ok st, hr => exact lex_layerLoop dp dest o hd hdp es st (fun x hx => hsym x (by simp [hx])) hr

/-- `archive.ApplyLayer` (plain) into an absolute destination: every call is good -/
theorem lex_applyLayer (dest : Str) (o : Opts) (es : List Entry) (oldUmask : Nat) (habs : isAbs dest = true)
    (hsym : ∀ e ∈ es, e.typ ≠ .sym) :
    LexSem (pathComps (clean dest)) (fun _ => True) (applyLayerP dest o es oldUmask) := by
  unfold applyLayerP unpackLayerP
  refine LexSem.bind _ _ _ (lex_info _ (.setUmask 0) trivial) ?_
  intro _ _
  refine LexSem.bind _ (Q := fun _ => True) _ _ ?_ ?_
  · exact lex_layerLoop _ (clean dest) o (clean_cleanAbs dest habs) rfl es {} hsym ⟨by simp, Or.inl rfl, by simp⟩
  · intro r _
    exact LexSem.bind _ _ _ (lex_info _ (.setUmask oldUmask) trivial) fun _ _ => trivial

end GA
