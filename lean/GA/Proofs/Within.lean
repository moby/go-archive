import GA.Proofs.PathLemmas
/-
  `filepath.Rel` between cleaned absolute paths never fails, and its result leads upwards (is ".." or
  starts with "../") exactly when the base's components are not a prefix of the target's (`rel_cleanAbs`).
  The guards of the extractors (`isWithin`: `isWithin_iff_prefix`; the name guards) are read off this one fact.
-/
namespace GA

theorem dropCommon_spec : ∀ (a b : List Str), ∃ pre, a = pre ++ (dropCommon a b).1 ∧ b = pre ++ (dropCommon a b).2 := by
  intro a b
  fun_induction dropCommon a b
  case case1 _ b _ ih =>
    obtain ⟨pre, h1, h2⟩ := ih
    exact ⟨b :: pre, by rw [List.cons_append, ← h1], by rw [List.cons_append, ← h2]⟩
  all_goals exact ⟨[], rfl, rfl⟩

theorem dropCommon_fst_mem (a b : List Str) (x : Str) (h : x ∈ (dropCommon a b).1) : x ∈ a := by
  obtain ⟨pre, ha, _⟩ := dropCommon_spec a b
  rw [ha]; exact List.mem_append_right _ h

theorem dropCommon_snd_mem (a b : List Str) (x : Str) (h : x ∈ (dropCommon a b).2) : x ∈ b := by
  obtain ⟨pre, _, hb⟩ := dropCommon_spec a b
  rw [hb]; exact List.mem_append_right _ h

theorem dropCommon_both_nil : ∀ (a b : List Str), (dropCommon a b).1 = [] → (dropCommon a b).2 = [] → a = b := by
  intro a b h1 h2
  obtain ⟨pre, ha, hb⟩ := dropCommon_spec a b
  rw [h1] at ha; rw [h2] at hb
  exact ha.trans hb.symm

theorem dropCommon_fst_nil_iff : ∀ (a b : List Str), (dropCommon a b).1 = [] ↔ a <+: b
  | [], b => by simp [dropCommon]
  | a :: as, [] => by simp [dropCommon]
  | a :: as, b :: bs => by
    simp only [dropCommon]
    split
    · rename_i h; subst h
      rw [dropCommon_fst_nil_iff as bs]
      simp [List.cons_prefix_cons]
    · rename_i h
      simp [List.cons_prefix_cons, h]

/-- joined normal components never look like an upward path: split at "/", the first element would be ".." -/
theorem joinSlash_norm_not_up (rt : List Str) (h : ∀ c ∈ rt, Norm c) :
    ¬ (joinSlash rt = dotdot ∨ hasPrefix (joinSlash rt) dotdotSlash = true) := by
  by_cases h0 : rt = []
  · subst h0; decide
  · intro hup
    have hs := splitSlash_joinSlash rt h0 (fun c hc => (h c hc).noSlash)
    have hm : dotdot ∈ rt := by
      rw [← hs]
      rcases hup with e | e
      · rw [e]; decide
      · obtain ⟨t, ht⟩ := List.isPrefixOf_iff_prefix.mp e
        rw [← ht, show dotdotSlash ++ t = dotdot ++ 47 :: t from rfl, splitSlash_append_slash]
        exact List.mem_append_left _ (by decide)
    exact (h _ hm).2.2.1 rfl

theorem ups_up (rb : List Str) (hrb : rb ≠ []) (tail : Str) (ht : tail = [] ∨ tail.head? = some 47) :
    joinSlash (rb.map fun _ => dotdot) ++ tail = dotdot ∨
    hasPrefix (joinSlash (rb.map fun _ => dotdot) ++ tail) dotdotSlash = true := by
  match rb, hrb with
  | [x], _ =>
    rcases ht with rfl | ht
    · exact Or.inl rfl
    · cases tail with
      | nil => cases ht
      | cons b t => right; simp at ht; simp [joinSlash, hasPrefix, dotdot, dotdotSlash, ht]
  | x :: y :: r, _ => right; simp [joinSlash, hasPrefix, dotdot, dotdotSlash]

theorem relElems_cleanAbs (cs : List Str) (h : ∀ c ∈ cs, Norm c) :
    relElems (47 :: joinSlash cs) = [] :: cs := by
  unfold relElems
  by_cases hcs : cs = []
  · subst hcs; rfl
  · have : (47 :: joinSlash cs) ≠ slashStr := by
      intro e
      exact hcs (joinSlash_eq_nil cs (fun c hc => (h c hc).1) (List.cons.inj e).2)
    rw [if_neg (List.cons_ne_nil _ _), if_neg this, splitSlash_cleanAbs cs h, if_neg hcs]

theorem rel_cleanAbs {d p : Str} (hd : CleanAbs d) (hp : CleanAbs p) :
    ∃ r, rel d p = some r ∧ ((r = dotdot ∨ hasPrefix r dotdotSlash = true) ↔ ¬ pathComps d <+: pathComps p) := by
  obtain ⟨cd, hcd, rfl, hpd⟩ := hd.comps
  obtain ⟨cp, hcp, rfl, hpp⟩ := hp.comps
  rw [hpd, hpp]
  unfold rel
  simp only [clean_of_cleanAbs _ hd, clean_of_cleanAbs _ hp]
  by_cases heq : (47 :: joinSlash cp) = (47 :: joinSlash cd)
  · have : cp = cd := by rw [← hpp, ← hpd, heq]
    subst this
    exact ⟨dot, if_pos heq, by simp [dot, dotdot, hasPrefix, dotdotSlash]⟩
  · have hnd : (47 :: joinSlash cd) ≠ dot := by simp [dot]
    simp only [heq, hnd, if_false, isAbs_cons, ne_eq, not_true_eq_false, relElems_cleanAbs cd hcd,
      relElems_cleanAbs cp hcp, dropCommon, if_true]
    have hrb : ∀ x ∈ (dropCommon cd cp).1, Norm x := fun x hx => hcd x (dropCommon_fst_mem cd cp x hx)
    have hrt : ∀ x ∈ (dropCommon cd cp).2, Norm x := fun x hx => hcp x (dropCommon_snd_mem cd cp x hx)
    rw [← dropCommon_fst_nil_iff cd cp]
    generalize dropCommon cd cp = dc at hrb hrt
    obtain ⟨rb, rt⟩ := dc
    have hhead : rb.head? ≠ some dotdot := by
      intro e
      cases rb with
      | nil => cases e
      | cons x xs => exact (hrb x (by simp)).2.2.1 (Option.some.inj e)
    simp only [hhead, if_false]
    by_cases hrb0 : rb = []
    · exact ⟨_, if_pos hrb0, by simp [joinSlash_norm_not_up rt hrt, hrb0]⟩
    · refine ⟨_, if_neg hrb0, ?_⟩
      simp only [hrb0, not_false_eq_true, iff_true]
      by_cases hrt0 : rt = []
      · simpa [hrt0] using ups_up rb hrb0 [] (Or.inl rfl)
      · simpa [hrt0] using ups_up rb hrb0 (47 :: joinSlash rt) (Or.inr rfl)

theorem isWithin_iff_prefix {d p : Str} (hd : CleanAbs d) (hp : CleanAbs p) :
    isWithin d p = true ↔ pathComps d <+: pathComps p := by
  obtain ⟨r, hr, h⟩ := rel_cleanAbs hd hp
  rw [← Classical.not_not (a := pathComps d <+: pathComps p), ← h]
  simp [isWithin, hr]

end GA
