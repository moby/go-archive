import GA.K.Sys
/-
  The filepath model read component by component.  A cleaned absolute path is `"/" ++ joinSlash cs`
  for a list `cs` of normal components (`CleanAbs`, `Norm`); everything `Clean`, `Join` and the kernel's
  `pathComps` do to such a string is a statement about `cs` and about folding `cleanStep` over a stack
  (`clean_of_cleanAbs`, `pathComps_join`, `pathComps_cleanAbs`).
-/
namespace GA

def Norm (c : Str) : Prop := c ≠ [] ∧ c ≠ dot ∧ c ≠ dotdot ∧ (47 : UInt8) ∉ c

def NoSlash (c : Str) : Prop := (47 : UInt8) ∉ c

def CleanAbs (s : Str) : Prop := ∃ cs : List Str, (∀ c ∈ cs, Norm c) ∧ s = 47 :: joinSlash cs

def compsOf (s : Str) : List Str := (splitSlash s).filter (· ≠ [])

theorem Norm.noSlash {c : Str} (h : Norm c) : NoSlash c := h.2.2.2

theorem splitSlash_ne_nil (s : Str) : splitSlash s ≠ [] := by
  fun_cases splitSlash s
  case case3 c cs _ => cases splitSlash cs <;> nofun
  all_goals nofun

theorem splitSlash_append_slash (a b : Str) :
    splitSlash (a ++ 47 :: b) = splitSlash a ++ splitSlash b := by
  induction a with
  | nil => simp [splitSlash]
  | cons c cs ih =>
    simp only [List.cons_append, splitSlash, ih]
    split
    · rfl
    · cases h : splitSlash cs with
      | nil => exact absurd h (splitSlash_ne_nil cs)
      | cons x xs => rfl

theorem splitSlash_noSlash (c : Str) (h : NoSlash c) : splitSlash c = [c] := by
  fun_induction splitSlash c
  case case1 => rfl
  case case2 => exact absurd List.mem_cons_self h
  case case3 ih => rw [ih fun hm => h (List.mem_cons_of_mem _ hm)]; rfl

theorem splitSlash_elems_noSlash : ∀ (s : Str), ∀ c ∈ splitSlash s, NoSlash c := by
  intro s
  fun_induction splitSlash s
  case case1 => simp [NoSlash]
  case case2 ih =>
    intro c hc
    rcases List.mem_cons.mp hc with rfl | hc
    · simp [NoSlash]
    · exact ih c hc
  case case3 x xs hx ih =>
    -- `x`, no slash, goes in front of the first element
    cases hs : splitSlash xs with
    | nil => exact absurd hs (splitSlash_ne_nil xs)
    | cons h t =>
      rw [hs] at ih
      intro c hc
      rcases List.mem_cons.mp hc with rfl | hc
      · exact fun hm => (List.mem_cons.mp hm).elim (fun e => hx e.symm) (ih h List.mem_cons_self)
      · exact ih c (List.mem_cons_of_mem _ hc)

theorem joinSlash_append : ∀ (xs ys : List Str), xs ≠ [] → ys ≠ [] →
    joinSlash (xs ++ ys) = joinSlash xs ++ 47 :: joinSlash ys := by
  intro xs ys hx hy
  obtain ⟨y, ys, rfl⟩ := List.exists_cons_of_ne_nil hy
  fun_induction joinSlash xs
  case case1 => exact absurd rfl hx
  case case2 => rfl
  case case3 x x' xs ih =>
    simp only [List.cons_append, joinSlash]
    rw [← List.cons_append, ih (by simp), List.append_assoc]
    rfl

theorem splitSlash_joinSlash : ∀ (cs : List Str), cs ≠ [] → (∀ c ∈ cs, NoSlash c) →
    splitSlash (joinSlash cs) = cs := by
  intro cs hne hn
  fun_induction joinSlash cs
  case case1 => exact absurd rfl hne
  case case2 x => exact splitSlash_noSlash x (hn x List.mem_cons_self)
  case case3 x y xs ih =>
    rw [splitSlash_append_slash, splitSlash_noSlash x (hn x List.mem_cons_self),
      ih (by simp) (fun c hc => hn c (List.mem_cons_of_mem _ hc))]
    rfl

theorem joinSlash_eq_nil : ∀ (cs : List Str), (∀ c ∈ cs, c ≠ []) → joinSlash cs = [] → cs = []
  | [], _, _ => rfl
  | [x], h, e => absurd e (h x (by simp))
  | x :: y :: ys, _, e => by simp [joinSlash] at e

theorem cleanStep_skip (r : Bool) (stk : List Str) {c : Str} (h : c = [] ∨ c = dot) : cleanStep r stk c = stk :=
  if_pos h

theorem cleanStep_skip_empty (r : Bool) (stk : List Str) : cleanStep r stk [] = stk :=
  cleanStep_skip r stk (Or.inl rfl)

theorem cleanStep_push (r : Bool) (stk : List Str) {c : Str} (h0 : c ≠ []) (h1 : c ≠ dot) (h2 : c ≠ dotdot) :
    cleanStep r stk c = c :: stk := by
  simp [cleanStep, h0, h1, h2]

theorem cleanStep_dotdot_nil (r : Bool) : cleanStep r [] dotdot = if r then [] else [dotdot] := by
  simp [cleanStep, dotdot, dot]

theorem cleanStep_dotdot_cons (r : Bool) (t : Str) (rest : List Str) :
    cleanStep r (t :: rest) dotdot = if t = dotdot then dotdot :: t :: rest else rest := by
  simp [cleanStep, dotdot, dot]

theorem mem_cleanStep {r : Bool} {stk : List Str} {c x : Str} (h : x ∈ cleanStep r stk c) :
    x ∈ stk ∨ (x = c ∧ c ≠ [] ∧ c ≠ dot ∧ (r = true → c ≠ dotdot)) := by
  revert h
  fun_cases cleanStep r stk c
  case case1 => exact Or.inl
  case case2 => nofun
  -- ".." stays when there is nothing to cancel and the path is not rooted, or when it meets another ".."
  case case3 h0 hdd hr =>
    exact fun h => Or.inr ⟨List.mem_singleton.mp h ▸ hdd.symm, (not_or.mp h0).1, (not_or.mp h0).2, fun e => absurd e hr⟩
  case case4 => exact fun h => Or.inl ((List.mem_cons.mp h).elim (· ▸ List.mem_cons_self) id)
  case case5 => exact fun h => Or.inl (List.mem_cons_of_mem _ h)
  case case6 h0 hdd =>
    exact fun h => (List.mem_cons.mp h).elim (fun e => Or.inr ⟨e, (not_or.mp h0).1, (not_or.mp h0).2, fun _ => hdd⟩) Or.inl

theorem mem_foldl_cleanStep {r : Bool} {x : Str} : ∀ (cs stk : List Str), x ∈ cs.foldl (cleanStep r) stk →
    x ∈ stk ∨ (x ∈ cs ∧ x ≠ [] ∧ x ≠ dot ∧ (r = true → x ≠ dotdot))
  | [], _, h => Or.inl h
  | c :: cs, stk, h => by
    rcases mem_foldl_cleanStep cs _ h with h | ⟨h1, h2⟩
    · rcases mem_cleanStep h with h | ⟨rfl, h2⟩
      · exact Or.inl h
      · exact Or.inr ⟨by simp, h2⟩
    · exact Or.inr ⟨by simp [h1], h2⟩

theorem foldl_cleanStep_norm (cs stk : List Str) (hn : ∀ c ∈ cs, NoSlash c) (hs : ∀ x ∈ stk, Norm x) :
    ∀ x ∈ cs.foldl (cleanStep true) stk, Norm x := by
  intro x hx
  rcases mem_foldl_cleanStep cs stk hx with h | ⟨h1, h2, h3, h4⟩
  · exact hs x h
  · exact ⟨h2, h3, h4 rfl, hn x h1⟩

theorem foldl_norm (r : Bool) : ∀ (cs : List Str) (stk : List Str), (∀ c ∈ cs, Norm c) →
    cs.foldl (cleanStep r) stk = cs.reverse ++ stk
  | [], stk, _ => by simp
  | c :: cs, stk, h => by
    have hc := h c (by simp)
    rw [List.foldl_cons, cleanStep_push r stk hc.1 hc.2.1 hc.2.2.1,
      foldl_norm r cs (c :: stk) (fun x hx => h x (by simp [hx]))]
    simp

theorem isAbs_cons (s : Str) : isAbs (47 :: s) = true := rfl

theorem CleanAbs.ne_nil {p : Str} (h : CleanAbs p) : p ≠ [] := by
  obtain ⟨cs, _, rfl⟩ := h; simp

theorem splitSlash_cleanAbs (cs : List Str) (h : ∀ c ∈ cs, Norm c) :
    splitSlash (47 :: joinSlash cs) = [] :: (if cs = [] then [[]] else cs) := by
  by_cases hcs : cs = []
  · subst hcs; simp [splitSlash, joinSlash]
  · simp only [splitSlash, hcs, if_false, if_true]
    rw [splitSlash_joinSlash cs hcs (fun c hc => (h c hc).noSlash)]

theorem filter_splitSlash_cleanAbs (p : Str → Bool) (cs : List Str) (h : ∀ c ∈ cs, Norm c) (h0 : p [] = false)
    (hp : ∀ c, Norm c → p c = true) : (splitSlash (47 :: joinSlash cs)).filter p = cs := by
  rw [splitSlash_cleanAbs cs h]
  by_cases hcs : cs = []
  · subst hcs; simp [h0]
  · simp only [hcs, if_false, List.filter_cons, h0, Bool.false_eq_true]
    exact List.filter_eq_self.mpr (fun c hc => hp c (h c hc))

theorem pathComps_cleanAbs (cs : List Str) (h : ∀ c ∈ cs, Norm c) : pathComps (47 :: joinSlash cs) = cs :=
  filter_splitSlash_cleanAbs _ cs h (by simp) (fun c hc => by simp [hc.1, hc.2.1])

theorem compsOf_cleanAbs (cs : List Str) (h : ∀ c ∈ cs, Norm c) : compsOf (47 :: joinSlash cs) = cs :=
  filter_splitSlash_cleanAbs _ cs h (by simp) (fun c hc => by simp [hc.1])

theorem foldl_cleanStep_cleanAbs (r : Bool) (S : List Str) (cs : List Str) (h : ∀ c ∈ cs, Norm c) :
    (splitSlash (47 :: joinSlash cs)).foldl (cleanStep r) S = cs.reverse ++ S := by
  rw [splitSlash_cleanAbs cs h]
  by_cases h0 : cs = []
  · subst h0; simp [cleanStep_skip_empty]
  · simp only [h0, if_false, List.foldl_cons, cleanStep_skip_empty]
    exact foldl_norm r cs S h

theorem CleanAbs.comps {p : Str} (h : CleanAbs p) :
    ∃ cs, (∀ c ∈ cs, Norm c) ∧ p = 47 :: joinSlash cs ∧ pathComps p = cs := by
  obtain ⟨cs, hcs, rfl⟩ := h
  exact ⟨cs, hcs, rfl, pathComps_cleanAbs cs hcs⟩

theorem CleanAbs.no_dotdot {p : Str} (h : CleanAbs p) : dotdot ∉ pathComps p := by
  obtain ⟨cs, hcs, _, hp⟩ := h.comps
  rw [hp]
  exact fun hm => (hcs _ hm).2.2.1 rfl

theorem CleanAbs.pathComps_eq_compsOf {p : Str} (h : CleanAbs p) : pathComps p = compsOf p := by
  obtain ⟨cs, hcs, rfl⟩ := h
  rw [pathComps_cleanAbs cs hcs, compsOf_cleanAbs cs hcs]

theorem cleanAbs_eq_of_comps {a b : Str} (ha : CleanAbs a) (hb : CleanAbs b) (h : pathComps a = pathComps b) :
    a = b := by
  obtain ⟨ca, _, rfl, hca⟩ := ha.comps
  obtain ⟨cb, _, rfl, hcb⟩ := hb.comps
  rw [hca, hcb] at h
  rw [h]

theorem clean_abs_form (s : Str) (h : isAbs s = true) :
    clean s = 47 :: joinSlash (cleanComps s) ∧ ∀ c ∈ cleanComps s, Norm c := by
  constructor
  · have hne : s ≠ [] := by rintro rfl; cases h
    unfold clean; simp [hne, h]
  · intro c hc
    unfold cleanComps at hc
    rw [h, List.mem_reverse] at hc
    exact foldl_cleanStep_norm _ [] (splitSlash_elems_noSlash s) (by simp) c hc

theorem clean_cleanAbs (s : Str) (h : isAbs s = true) : CleanAbs (clean s) :=
  ⟨cleanComps s, (clean_abs_form s h).2, (clean_abs_form s h).1⟩

theorem clean_of_cleanAbs (s : Str) (h : CleanAbs s) : clean s = s := by
  obtain ⟨cs, hcs, rfl⟩ := h
  rw [(clean_abs_form _ (isAbs_cons _)).1]
  unfold cleanComps
  rw [isAbs_cons, foldl_cleanStep_cleanAbs true [] cs hcs]
  simp

theorem cleanComps_join (cs : List Str) (h : ∀ c ∈ cs, Norm c) (x : Str) :
    cleanComps ((47 :: joinSlash cs) ++ 47 :: x) =
      ((splitSlash x).foldl (cleanStep true) cs.reverse).reverse := by
  unfold cleanComps
  rw [show isAbs ((47 :: joinSlash cs) ++ 47 :: x) = true from rfl, splitSlash_append_slash, List.foldl_append,
    foldl_cleanStep_cleanAbs true [] cs h, List.append_nil]

theorem pathComps_join (cs : List Str) (hcs : ∀ c ∈ cs, Norm c) (y : Str) :
    CleanAbs (join (47 :: joinSlash cs) y) ∧
    pathComps (join (47 :: joinSlash cs) y) = ((splitSlash y).foldl (cleanStep true) cs.reverse).reverse ∧
    (∀ x ∈ (splitSlash y).foldl (cleanStep true) cs.reverse, Norm x) := by
  have hnorm : ∀ x ∈ (splitSlash y).foldl (cleanStep true) cs.reverse, Norm x :=
    foldl_cleanStep_norm _ _ (splitSlash_elems_noSlash y) (by simpa using hcs)
  have hj : join (47 :: joinSlash cs) y = 47 :: joinSlash ((splitSlash y).foldl (cleanStep true) cs.reverse).reverse := by
    rw [← cleanComps_join cs hcs y, ← (clean_abs_form _ rfl).1]
    simp [join]
  rw [hj]
  exact ⟨⟨_, by simpa using hnorm, rfl⟩, pathComps_cleanAbs _ (by simpa using hnorm), hnorm⟩

theorem join_cleanAbs (d x : Str) (hd : CleanAbs d) : CleanAbs (join d x) := by
  obtain ⟨cs, hcs, rfl⟩ := hd
  exact (pathComps_join cs hcs x).1

theorem pathComps_nil : pathComps [] = [] := rfl

theorem pathComps_norm (s : Str) (hdd : dotdot ∉ pathComps s) : ∀ c ∈ pathComps s, Norm c := by
  intro c hc
  have hc' := hc
  unfold pathComps at hc
  simp only [List.mem_filter, decide_eq_true_eq] at hc
  exact ⟨hc.2.1, hc.2.2, fun e => hdd (by rw [← e]; exact hc'), splitSlash_elems_noSlash s c hc.1⟩

theorem pathComps_append_slash (a b : Str) : pathComps (a ++ 47 :: b) = pathComps a ++ pathComps b := by
  simp only [pathComps, splitSlash_append_slash, List.filter_append]

end GA
