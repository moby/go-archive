import GA.Proofs.DirBase
/-
  `Join(dest, Dir(n))` and `Join(dest, n)` for a cleaned name `n`: the component lists are
  prefix-comparable (the parent names an ancestor of the entry's path, or the same path:
  `implied_parent_comparable`).  The work is in relative names: `Clean` of a relative string runs the component
  stack without a root, and what it leaves, run over the destination's rooted stack (`applyStack`), does what the
  raw string does (`fold_clean_rel`).  `join_one_within`: one more component under a child of the destination
  stays within the destination.
-/
namespace GA

/-- run a relative clean stack (reversed: head = last component) over a rooted one -/
def applyStack (S T : List Str) : List Str := T.foldr (fun c S => cleanStep true S c) S

/-- a ".." that the relative stack absorbs is absorbed by the rooted one as well, because everything the
    relative stack holds was pushed, not skipped -/
theorem applyStack_step (S T : List Str) (c : Str) (hT : ∀ x ∈ T, x ≠ [] ∧ x ≠ dot) :
    applyStack S (cleanStep false T c) = cleanStep true (applyStack S T) c := by
  fun_cases cleanStep false T c
  case case1 h0 => exact (cleanStep_skip _ _ h0).symm
  case case2 => contradiction
  case case5 hdd t rest ht =>
    -- ".." takes `t` off the relative stack; `t` was pushed onto the rooted one, so ".." takes it off there too
    have hpush : applyStack S (t :: rest) = t :: applyStack S rest :=
      cleanStep_push true _ (hT t List.mem_cons_self).1 (hT t List.mem_cons_self).2 ht
    rw [hpush, hdd, cleanStep_dotdot_cons, if_neg ht]
  -- ".." kept (on an empty stack, on another ".."), or a component pushed: the same step on both sides
  case case3 hdd _ | case4 hdd _ => subst hdd; rfl
  case case6 => rfl

theorem applyStack_foldl (S : List Str) : ∀ (cs T : List Str), (∀ x ∈ T, x ≠ [] ∧ x ≠ dot) →
    applyStack S (cs.foldl (cleanStep false) T) = cs.foldl (cleanStep true) (applyStack S T)
  | [], _, _ => rfl
  | c :: cs, T, hT => by
    have hT' : ∀ x ∈ cleanStep false T c, x ≠ [] ∧ x ≠ dot := fun x hx => by
      rcases mem_cleanStep hx with h | ⟨rfl, h1, h2, _⟩
      · exact hT x h
      · exact ⟨h1, h2⟩
    rw [List.foldl_cons, applyStack_foldl S cs _ hT', applyStack_step S T c hT, List.foldl_cons]

theorem fold_cleanComps_rel (S : List Str) (a : Str) (hrel : isAbs a = false) :
    (cleanComps a).foldl (cleanStep true) S = (splitSlash a).foldl (cleanStep true) S := by
  unfold cleanComps
  rw [hrel, List.foldl_reverse]
  exact applyStack_foldl S (splitSlash a) [] (by simp)

theorem cleanComps_rel_elems (a : Str) (hrel : isAbs a = false) : ∀ c ∈ cleanComps a, c ≠ [] ∧ NoSlash c := by
  intro c hc
  unfold cleanComps at hc
  rw [hrel, List.mem_reverse] at hc
  rcases mem_foldl_cleanStep _ _ hc with h | ⟨h1, h2, _⟩
  · cases h
  · exact ⟨h2, splitSlash_elems_noSlash a c h1⟩

theorem splitSlash_clean_rel (a : Str) (hrel : isAbs a = false) :
    splitSlash (clean a) = if cleanComps a = [] then [dot] else cleanComps a := by
  unfold clean
  by_cases ha : a = []
  · subst ha; rfl
  · have hel := cleanComps_rel_elems a hrel
    simp only [ha, if_false, hrel, Bool.false_eq_true]
    by_cases hout : joinSlash (cleanComps a) = []
    · rw [if_pos hout, if_pos (joinSlash_eq_nil _ (fun c hc => (hel c hc).1) hout)]; rfl
    · have hne : cleanComps a ≠ [] := fun e => hout (by rw [e]; rfl)
      rw [if_neg hout, if_neg hne, splitSlash_joinSlash _ hne (fun c hc => (hel c hc).2)]

theorem fold_clean_rel (S : List Str) (a : Str) (hrel : isAbs a = false) :
    (splitSlash (clean a)).foldl (cleanStep true) S = (splitSlash a).foldl (cleanStep true) S := by
  rw [splitSlash_clean_rel a hrel, ← fold_cleanComps_rel S a hrel]
  split
  · rename_i h; rw [h]; rfl
  · rfl

theorem isAbs_clean_rel (x : Str) (h : isAbs x = false) : isAbs (clean x) = false := by
  have hs := splitSlash_clean_rel x h
  cases hc : clean x with
  | nil => rfl
  | cons b t =>
    cases hb : isAbs (b :: t) with
    | false => rfl
    | true =>
      -- an absolute string splits into an empty first element, which `Clean` never leaves
      have : b = 47 := by simpa [isAbs] using hb
      subst this
      rw [hc, splitSlash, if_pos rfl] at hs
      split at hs
      · cases hs
      · exact absurd rfl (cleanComps_rel_elems x h [] (by rw [← hs]; simp)).1

theorem reverse_tail_prefix {α} (l : List α) : l.tail.reverse <+: l.reverse := by
  cases l with
  | nil => simp
  | cons x xs => simp

theorem cleanStep_cases (S : List Str) (b : Str) (hS : ∀ x ∈ S, Norm x) :
    cleanStep true S b = S ∨ cleanStep true S b = S.tail ∨ cleanStep true S b = b :: S := by
  fun_cases cleanStep true S b
  case case3 => contradiction
  -- a normal component on top is not ".."
  case case4 => exact absurd rfl (hS _ List.mem_cons_self).2.2.1
  case case5 => exact Or.inr (Or.inl rfl)
  case case6 => exact Or.inr (Or.inr rfl)
  all_goals exact Or.inl rfl

theorem cleanStep_comparable (S : List Str) (b : Str) (hS : ∀ x ∈ S, Norm x) :
    (cleanStep true S b).reverse <+: S.reverse ∨ S.reverse <+: (cleanStep true S b).reverse := by
  rcases cleanStep_cases S b hS with e | e | e <;> rw [e]
  · exact Or.inl (List.prefix_refl _)
  · exact Or.inl (reverse_tail_prefix S)
  · exact Or.inr (by rw [List.reverse_cons]; exact List.prefix_append _ _)

theorem tail_prefix_cleanStep (S : List Str) (b : Str) (hS : ∀ x ∈ S, Norm x) :
    S.tail.reverse <+: (cleanStep true S b).reverse := by
  rcases cleanStep_cases S b hS with e | e | e <;> rw [e]
  · exact reverse_tail_prefix S
  · exact List.prefix_refl _
  · rw [List.reverse_cons]; exact (reverse_tail_prefix S).trans (List.prefix_append _ _)

theorem join_one_within (dp : Path) (t b : Str) (x : Str) (ht : CleanAbs t) (htc : pathComps t = dp ++ [x])
    (hb : b = dot ∨ b = slashStr ∨ NoSlash b) :
    CleanAbs (join t b) ∧ dp <+: pathComps (join t b) := by
  obtain ⟨cs, hcs, rfl, hsc⟩ := ht.comps
  have hJ := pathComps_join cs hcs b
  refine ⟨hJ.1, ?_⟩
  -- such a string is one step of `Clean` ("/" is a step that does nothing)
  obtain ⟨b', hf⟩ : ∃ b', (splitSlash b).foldl (cleanStep true) cs.reverse = cleanStep true cs.reverse b' := by
    rcases hb with rfl | rfl | hb
    · exact ⟨dot, rfl⟩
    · exact ⟨[], by simp [slashStr, splitSlash, cleanStep_skip_empty]⟩
    · exact ⟨b, by rw [splitSlash_noSlash b hb]; rfl⟩
  have := tail_prefix_cleanStep cs.reverse b' (by simpa using hcs)
  rw [hJ.2.1, hf]
  rwa [show cs.reverse.tail.reverse = dp by rw [← hsc, htc]; simp] at this

theorem foldl_splitLast (S : List Str) (n : Str) :
    (splitSlash n).foldl (cleanStep true) S =
      cleanStep true ((splitSlash (splitLast n).1).foldl (cleanStep true) S) (splitLast n).2 := by
  conv => lhs; rw [← splitLast_append n]
  have hb := splitSlash_noSlash _ (splitLast_snd_noSlash n)
  rcases splitLast_fst_dirForm n with h0 | ⟨a', ha'⟩
  · rw [h0, List.nil_append, hb]
    simp [splitSlash, cleanStep_skip_empty]
  · have : splitSlash (a' ++ [47]) = splitSlash a' ++ [[]] := splitSlash_append_slash a' []
    rw [ha', List.append_assoc, List.singleton_append, splitSlash_append_slash, hb, List.foldl_append, this,
      List.foldl_append]
    simp [cleanStep_skip_empty]

/-- **the implied parent names an ancestor of the entry's path, or the path itself** -/
theorem implied_parent_comparable (dest x : Str) (hd : CleanAbs dest) :
    CleanAbs (join dest (dir (clean x))) ∧ CleanAbs (join dest (clean x)) ∧
    (pathComps (join dest (dir (clean x))) <+: pathComps (join dest (clean x)) ∨
     pathComps (join dest (clean x)) <+: pathComps (join dest (dir (clean x)))) := by
  obtain ⟨cs, hcs, rfl⟩ := hd
  have hP := pathComps_join cs hcs (clean x)
  have hQ := pathComps_join cs hcs (dir (clean x))
  refine ⟨hQ.1, hP.1, ?_⟩
  rw [hP.2.1, hQ.2.1]
  by_cases habs : isAbs x = true
  · -- an absolute name: all components are normal, the parent drops the last one
    obtain ⟨ns, hns, hn, hnc⟩ := (clean_cleanAbs x habs).comps
    obtain ⟨hdc, hdd⟩ := dir_cleanAbs (clean_cleanAbs x habs)
    obtain ⟨ds, hds, hdn, hdc⟩ := hdc.comps
    rw [hdn, foldl_cleanStep_cleanAbs _ _ ds hds, hn, foldl_cleanStep_cleanAbs _ _ ns hns,
      show ds = ns.dropLast by rw [← hdc, hdd, hnc]]
    left
    simp only [List.reverse_append, List.reverse_reverse]
    exact (List.prefix_append_right_inj cs).mpr (List.dropLast_prefix ns)
  · -- a relative name n = a ++ b, a empty or ending in "/", b without "/": `Dir` cleans a, which is relative too
    have hnrel := isAbs_clean_rel x (by simpa using habs)
    have harel : isAbs (splitLast (clean x)).1 = false := by
      cases ha : (splitLast (clean x)).1 with
      | nil => rfl
      | cons c rest =>
        have : (clean x).head? = some c := by rw [← splitLast_append (clean x), ha]; rfl
        unfold isAbs at hnrel ⊢
        rwa [this] at hnrel
    rw [foldl_splitLast _ (clean x), show dir (clean x) = clean (splitLast (clean x)).1 from rfl,
      fold_clean_rel _ _ harel]
    exact (cleanStep_comparable _ _
      (foldl_cleanStep_norm _ _ (splitSlash_elems_noSlash _) (by simpa using hcs))).symm

end GA
