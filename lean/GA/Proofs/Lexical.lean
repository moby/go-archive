import GA.Proofs.ConfineStep
/-
  Plain (non-jailed) extraction in a world without symbolic links: path resolution follows the
  components literally, so a call whose path arguments lie lexically beneath the destination can only
  touch what lies physically beneath it.  This is the bridge from the lexical guards of C02 to the
  clause "nothing outside the destination is created, modified, deleted, re-owned, re-timed or
  hard-linked".  `NoSym`; `walk_descent`: what `walk` answers in such a world, as a `Descent`; from it
  `walk_lexical` and `resolve_lexical` / `resolveC_lexical`.
-/
namespace GA

def NoSym (fs : FS) : Prop := ∀ p n, fs.get p = some n → n.kind ≠ .sym

/-- What a walk along `cs` answers when no component is ".." or names a symbolic link: it arrives at `cur ++ cs`, or
    it names the prefix of `cs` at which nothing is, or no directory, or it ran out of fuel. -/
inductive Descent (fs : FS) (cur : Path) (cs : List Str) : WRes → Prop
  | ok : Descent fs cur cs (.ok (cur ++ cs))
  | enoent {pre : Path} : pre <+: cs → fs.get (cur ++ pre) = none → Descent fs cur cs (.err .ENOENT)
  | enotdir {pre : Path} : pre <+: cs → fs.isDir (cur ++ pre) = false → Descent fs cur cs (.err .ENOTDIR)
  | eloop : Descent fs cur cs (.err .ELOOP)

theorem Descent.cons {fs : FS} {cur : Path} {c : Str} {rest : List Str} {r : WRes}
    (h : Descent fs (cur ++ [c]) rest r) : Descent fs cur (c :: rest) r := by
  have e : ∀ l : Path, cur ++ [c] ++ l = cur ++ c :: l := fun l => by simp
  cases h with
  | ok => rw [e]; exact .ok
  | enoent hp hg => exact .enoent (List.cons_prefix_cons.2 ⟨rfl, hp⟩) (e _ ▸ hg)
  | enotdir hp hd => exact .enotdir (List.cons_prefix_cons.2 ⟨rfl, hp⟩) (e _ ▸ hd)
  | eloop => exact .eloop

theorem walk_descent (fs : FS) (root : Path) (hns : NoSym fs) :
    ∀ (fuel links : Nat) (cur : Path) (cs : List Str) (fl : Bool),
      dotdot ∉ cs → Descent fs cur cs (walk fs root fuel links cur cs fl) := by
  intro fuel links cur cs fl
  have nos : ∀ {p n b}, fs.get p = some n → (n.kind == Kind.sym && b) = true → False := fun hn hk =>
    hns _ _ hn (by simp at hk; exact hk.1)
  -- the cases of `walk` in the order of its text; of the three ways on, only the plain step down (the last) is open
  fun_induction walk fs root fuel links cur cs fl
  case case1 => intro _; simpa using Descent.ok (fs := fs) (cs := [])
  case case2 => exact fun _ => .eloop
  case case3 hd _ => exact fun _ => .enotdir (pre := []) List.nil_prefix (by simpa using hd)
  case case4 hg => exact fun _ => .enoent (pre := []) List.nil_prefix (by simpa using hg)
  case case5 => intro h; simp at h
  case case6 hn he => intro _; rw [List.isEmpty_iff.mp he]; exact .ok
  case case7 hn _ => exact fun _ => .enoent (pre := [_]) (by simp) hn
  case case8 hn hk _ => exact (nos hn hk).elim
  case case9 hn hk _ => exact (nos hn hk).elim
  case case10 hn hk _ _ _ => exact (nos hn hk).elim
  case case11 ih => exact fun h => (ih fun e => h (by simp [e])).cons

/-- without symbolic links and without ".." the walk ends exactly where the components say -/
theorem walk_lexical (fs : FS) (root : Path) (hns : NoSym fs) :
    ∀ (fuel links : Nat) (cur : Path) (cs : List Str) (fl : Bool) (q : Path),
      dotdot ∉ cs → walk fs root fuel links cur cs fl = .ok q → q = cur ++ cs := by
  intro fuel links cur cs fl q hdd h
  have hd := walk_descent fs root hns fuel links cur cs fl hdd
  rw [h] at hd
  cases hd; rfl

theorem Resolves.lexical {w : World} {p : Str} {q : Path} (h : Resolves w p q) (hroot : w.root = [])
    (hns : NoSym w.fs) (hdd : dotdot ∉ pathComps p) : q = pathComps p := by
  obtain ⟨_, hw⟩ := h
  rw [hroot] at hw
  exact walk_lexical w.fs [] hns _ _ _ _ _ _ hdd hw

theorem resolve_lexical (w : World) (hroot : w.root = []) (hns : NoSym w.fs) (s : Str) (fl : Bool) (q : Path)
    (hdd : dotdot ∉ pathComps s) (h : resolve w s fl = .ok q) : q = pathComps s :=
  (resolve_resolves h).lexical hroot hns hdd

theorem resolveC_lexical (w : World) (hroot : w.root = []) (hns : NoSym w.fs) (s : Str) (q : Path)
    (hdd : dotdot ∉ pathComps s) (h : resolveC w s = .ok q) : q = pathComps s :=
  (resolveC_resolves h).lexical hroot hns hdd

end GA
