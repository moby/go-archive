import GA.Proofs.LexProg
/-
  The world hypothesis `LW dp w` for a concrete file system: every clause speaks of the names `lookup`
  finds, `lookup` finds only listed pairs, and so a test over the finite list `fs.names` settles it.
-/
namespace GA

theorem mem_names_of_lookup {fs : FS} {p : Path} {i : Ino} (h : fs.lookup p = some i) : (p, i) ∈ fs.names := by
  obtain ⟨e, he, rfl⟩ := Option.map_eq_some_iff.mp h
  have hp : e.1 = p := eq_of_beq (List.find?_some (p := fun e : Path × Ino => e.1 == p) he)
  exact hp ▸ List.mem_of_find?_eq_some he

/-- The clauses of `LW dp { fs := fs }` in their order (the first line serves `NoSym` and `TreeWF.has_inode`),
    each tested on every listed pair — also on one that `lookup` never returns (a second entry for the same
    path): that only makes the test stricter.  The proper ancestors of `dp` are `dp.take k`, `k < dp.length`. -/
def lwB (dp : Path) (fs : FS) : Bool :=
  fs.names.all (fun e => (fs.inode e.2).any (·.kind != .sym)) &&
  fs.names.all (fun e => e.2 < fs.next) &&
  fs.isDir dp &&
  fs.names.all (fun e => e.1.all fun c => decide (c ≠ [] ∧ c ≠ dot ∧ c ≠ dotdot ∧ (47 : UInt8) ∉ c)) &&
  fs.names.all (fun e => e.1 == [] || fs.isDir e.1.dropLast) &&
  fs.names.all (fun e => fs.names.all fun e' => e'.2 != e.2 || fs.kindAt e.2 != some .dir || e'.1 == e.1) &&
  (List.range dp.length).all (fun k => fs.isDir (dp.take k) &&
    fs.names.all fun e => fs.lookup (dp.take k) != some e.2 || !under dp e.1)

theorem LW.of_lwB {dp : Path} {fs : FS} (h : lwB dp fs = true) : LW dp ({ fs := fs } : World) := by
  simp only [lwB, Bool.and_eq_true, Bool.or_eq_true, List.all_eq_true, decide_eq_true_eq, bne_iff_ne,
    beq_iff_eq, Bool.not_eq_true', List.mem_range, Option.any_eq_true, and_assoc] at h
  -- one statement `∀ e ∈ fs.names, …` per line of `lwB`
  obtain ⟨hsym, hfresh, hdest, hnorm, hpar, hone, hchain⟩ := h
  refine ⟨⟨rfl, ?nosym, ?fresh, hdest, ?names, ⟨?has_inode, ?parent_dir⟩, ?dirone⟩, ?chain⟩
  case nosym =>
    intro p n hg
    obtain ⟨i, hl, hi⟩ := Option.bind_eq_some_iff.mp hg
    obtain ⟨m, hm, hk⟩ := hsym _ (mem_names_of_lookup hl)
    cases hi.symm.trans hm
    exact hk
  case fresh => exact fun p i hl => hfresh _ (mem_names_of_lookup hl)
  case names => exact fun p i hl => hnorm _ (mem_names_of_lookup hl)
  case has_inode =>
    intro p i hl
    obtain ⟨m, hm, _⟩ := hsym _ (mem_names_of_lookup hl)
    rw [hm]; rfl
  case parent_dir => exact fun p i hl hne => (hpar _ (mem_names_of_lookup hl)).resolve_left hne
  case dirone =>
    intro p q i n hp hq hi hk
    rcases hone _ (mem_names_of_lookup hp) _ (mem_names_of_lookup hq) with (h | h) | h
    · exact absurd rfl h
    · exact absurd (kindAt_eq_some.mpr ⟨n, hi, hk⟩) h
    · exact h.symm
  case chain =>
    intro pre hpre hne
    have hlen : pre.length < dp.length :=
      Nat.lt_of_le_of_ne hpre.length_le (fun he => hne (hpre.eq_of_length he))
    obtain ⟨hd, hout⟩ := hchain pre.length hlen
    rw [← List.prefix_iff_eq_take.mp hpre] at hd hout
    obtain ⟨i, hl, hk⟩ := (isDir_iff_kindAt fs pre).mp hd
    obtain ⟨n, hi, hkn⟩ := kindAt_eq_some.mp hk
    exact ⟨i, n, hl, hi, hkn, ⟨pre, hl⟩,
      fun q hq => (hout _ (mem_names_of_lookup hq)).resolve_left (fun hne => hne hl)⟩

end GA
