import GA.M.Unpack
import GA.Proofs.Programs
/-
  Footprints: which calls the parts of the extractors can make, stated once with `Prog.Calls` / `Prog.Sem`:
  `MetaOn path` for the metadata phase, `CreateOn path xd e` for `createTarFile` (`calls_createTarFile`), `PermOn`
  and `MkdirCall` for `MkdirAllAndChown` (`walk_mkdirAllAndChown`, `walk_impliedDirs`).  The facts "only good
  calls", "only covered calls", "never blocks", "keeps every name" about a part (`LexSem`, `FrSem`, `NB`,
  `KeepsNames`, each defined where it is used) follow from its footprint by looking at each kind of call it allows.
-/
namespace GA

inductive MetaOn (path : Str) : Sys → Prop
  | lstat : MetaOn path (.lstat path)
  | chown (u g : Nat) (fl : Bool) : MetaOn path (.chown path u g fl)
  | chmod (m : Nat) : MetaOn path (.chmod path m)
  | setxattr (k : Str) (v : List UInt8) (fl : Bool) : MetaOn path (.setxattr path k v fl)
  | utimes (t : Int) (fl : Bool) : MetaOn path (.utimes path (some t) fl)

theorem calls_setXattrs (path : Str) (best : Bool) : ∀ (xs : List (Str × List UInt8)),
    (setXattrsP path best xs).Calls (MetaOn path) := by
  intro xs
  fun_induction setXattrsP path best xs
  case case1 => trivial
  case case2 k v _ ih => exact Prog.Sem.bind _ _ (calls_sys _ (.setxattr k v false)) fun r _ => ite_both trivial ih

theorem calls_applyMeta (path : Str) (e : Entry) (o : Opts) : (applyMetaP path e o).Calls (MetaOn path) := by
  -- `handleLChmod` and the time logic of `createTarFile`: on a hard-link entry the call is made only after a look
  have look : ∀ {s s' : Sys}, MetaOn path s → MetaOn path s' → (if (e.typ == .link) = true then do
      let l ← sys (.lstat path)
      if notSymlink l then sys s else pure .ok
    else if (e.typ != .sym) = true then sys s else sys s').Calls (MetaOn path) := fun hs hs' =>
    ite_both (Prog.Sem.bind _ _ (calls_sys _ .lstat) (fun _ _ => ite_both (calls_sys _ hs) trivial))
      (ite_both (calls_sys _ hs) (calls_sys _ hs'))
  unfold applyMetaP
  refine Prog.Sem.bind _ _ (Q := fun _ => True) (ite_both trivial (calls_sys _ (.chown _ _ false))) (fun c _ => ite_both trivial ?_)
  refine Prog.Sem.bind _ _ (calls_setXattrs path _ _) (fun x _ => ite_both trivial ?_)
  refine Prog.Sem.bind _ _ (Q := fun _ => True) ?_ (fun m _ => ite_both trivial ?_)
  · exact ite_both (Prog.Sem.bind _ _ (calls_sys _ .lstat) (fun _ _ => ite_both (calls_sys _ (.chmod _)) trivial))
      (ite_both (calls_sys _ (.chmod _)) trivial)
  · exact Prog.Sem.bind _ _ (look (.utimes _ true) (.utimes _ false)) (fun u _ => ite_both trivial trivial)

/-- the calls of `createTarFile(path, extractDir, hdr)`: the metadata of `path`, and the one call that creates the
    object — a hard link only from a source that passed the breakout guard -/
inductive CreateOn (path xd : Str) (e : Entry) : Sys → Prop
  | attr {s : Sys} (h : MetaOn path s) : CreateOn path xd e s
  | mkdir (m : Nat) : CreateOn path xd e (.mkdir path m)
  | createWrite (h : e.typ = .reg) (m : Nat) (b : List UInt8) : CreateOn path xd e (.createWrite path m b)
  | mknod (k : Kind) (hk : k ≠ .sym) (m : Nat) (rdev : Nat × Nat) : CreateOn path xd e (.mknod path k m rdev)
  | link (h : e.typ = .link) (hw : isWithin xd (join xd e.linkname) = true) :
      CreateOn path xd e (.link (join xd e.linkname) path)
  | symlink (h : e.typ = .sym) : CreateOn path xd e (.symlink e.linkname path)

theorem kindOfTyp_ne_sym (t : Typ) : kindOfTyp t ≠ .sym := by cases t <;> simp [kindOfTyp]

theorem calls_createTarFile (path xd : Str) (e : Entry) (o : Opts) :
    (createTarFileP path xd e o).Calls (CreateOn path xd e) := by
  have hmeta : (applyMetaP path e o).Calls (CreateOn path xd e) :=
    (calls_applyMeta path e o).sem fun _ h => .attr h
  have made : ∀ {s : Sys}, CreateOn path xd e s → (do
      let r ← sys s
      if isErr r then return Out.err
      applyMetaP path e o).Calls (CreateOn path xd e) := fun hs =>
    Prog.Sem.bind _ _ (calls_sys _ hs) (fun r _ => ite_both trivial hmeta)
  fun_cases createTarFileP path xd e o
  case case1 => exact Prog.Sem.bind _ _ (calls_sys _ (.attr .lstat)) (fun l _ => ite_both hmeta (made (.mkdir _)))
  case case2 hreg =>
    exact Prog.Sem.bind _ _ (calls_sys _ (.createWrite hreg _ _)) (fun r _ => ite_both trivial (ite_both trivial hmeta))
  -- a device, outside a user namespace
  case case4 | case6 => exact made (.mknod _ (kindOfTyp_ne_sym _) _ _)
  case case7 =>
    exact Prog.Sem.bind _ _ (calls_sys _ (.mknod .fifo (by decide) _ _)) (fun r _ => ite_both (ite_both trivial trivial) hmeta)
  -- a hard link, a symbolic link whose target passed the guard
  case case9 hl _ hw => exact made (.link hl (by simpa using hw))
  case case11 hs _ _ => exact made (.symlink hs)
  -- the rest make no call
  all_goals trivial

theorem calls_dirTimes (dest : Str) : ∀ (es : List Entry),
    (dirTimesP dest es).Calls (fun s => ∃ x ∈ es, MetaOn (join dest x.name) s) := by
  intro es
  fun_induction dirTimesP dest es
  case case1 => trivial
  case case2 e es ih =>
    have ih : (dirTimesP dest es).Calls (fun s => ∃ x ∈ e :: es, MetaOn (join dest x.name) s) :=
      ih.sem fun _ ⟨x, hx, h⟩ => ⟨x, List.mem_cons_of_mem _ hx, h⟩
    refine Prog.Sem.bind _ _ (calls_sys _ ⟨e, List.mem_cons_self, .lstat⟩) fun l _ => ite_both ih ?_
    exact Prog.Sem.bind _ _ (calls_sys _ ⟨e, List.mem_cons_self, .utimes _ true⟩) fun r _ => ite_both trivial ih

/-! ### the footprint of `MkdirAllAndChown`
  Its mutating calls other than `os.MkdirAll` itself go to paths that an earlier `stat` reported missing.  What such
  an answer entitles one to (the path is beneath the destination; it did not exist when the extraction began) is a
  matter of the world, so the footprint carries the answer as evidence `R (.stat d) r` and assumes nothing of `R`. -/

inductive PermOn (p : Str) (mode : Nat) (owner : Option (Nat × Nat)) : Sys → Prop
  | stat : PermOn p mode owner (.stat p)
  | chmod : PermOn p mode owner (.chmod p (mode &&& 0o777))
  | chown {u g : Nat} (h : owner = some (u, g)) : PermOn p mode owner (.chown p u g true)

theorem calls_setPermissions (p : Str) (mode : Nat) (owner : Option (Nat × Nat)) :
    (setPermissionsP p mode owner).Calls (PermOn p mode owner) := by
  unfold setPermissionsP
  refine Prog.Sem.bind _ _ (calls_sys _ .stat) (fun r _ => ?_)
  split
  · refine Prog.Sem.bind _ _ (Q := fun _ => True) (ite_both (calls_sys _ .chmod) trivial) (fun c _ => ite_both trivial ?_)
    split
    · trivial
    · exact ite_both trivial (calls_sys _ (.chown rfl))
  · trivial

theorem calls_setAll (mode : Nat) (owner : Option (Nat × Nat)) : ∀ (ps : List Str),
    (setAll mode owner ps).Calls (fun s => ∃ p ∈ ps, PermOn p mode owner s) := by
  intro ps
  fun_induction setAll mode owner ps
  case case1 => trivial
  case case2 p ps ih =>
    refine Prog.Sem.bind _ _ ((calls_setPermissions p mode owner).sem fun _ h => ⟨p, List.mem_cons_self, h⟩)
      (fun r _ => ite_both trivial ?_)
    exact ih.sem fun _ ⟨q, hq, h⟩ => ⟨q, List.mem_cons_of_mem _ hq, h⟩

/-- `perm` carries the answer "no such file" that `stat` gave for the member `d` of the chain of ancestors -/
inductive MkdirCall (R : Sys → Res → Prop) (path : Str) (mode : Nat) (owner : Option (Nat × Nat)) : Sys → Prop
  | stat {d : Str} (h : d ∈ path :: ancestorsOf path.length path) : MkdirCall R path mode owner (.stat d)
  | mkdirAll : MkdirCall R path mode owner (.mkdirAll path mode)
  | perm {d : Str} {r : Res} {s : Sys} (hd : d ∈ path :: ancestorsOf path.length path) (hr : R (.stat d) r)
      (he : isENOENT r = true) (h : PermOn d mode owner s) : MkdirCall R path mode owner s

variable {G : Sys → Prop} {R : Sys → Res → Prop}

theorem walk_missingOf : ∀ (ds : List Str), (∀ d ∈ ds, G (.stat d)) →
    (missingOf ds).Sem G R (fun ms => ∀ m ∈ ms, m ∈ ds ∧ ∃ r, R (.stat m) r ∧ isENOENT r = true)
  | [], _ => nofun
  | d :: ds, h => by
    simp only [missingOf]
    refine Prog.Sem.bind _ _ (sem_sys _ (h d List.mem_cons_self) fun _ hr => hr) fun r hr => ?_
    refine Prog.Sem.bind _ _ (walk_missingOf ds fun x hx => h x (List.mem_cons_of_mem _ hx)) fun rest hrest => ?_
    have hrest' : ∀ m ∈ rest, m ∈ d :: ds ∧ ∃ r, R (.stat m) r ∧ isENOENT r = true :=
      fun m hm => ⟨List.mem_cons_of_mem _ (hrest m hm).1, (hrest m hm).2⟩
    refine sem_pure _ fun m hm => ?_
    split at hm
    · rcases List.mem_cons.mp hm with rfl | hm
      · exact ⟨List.mem_cons_self, r, hr, ‹_›⟩
      · exact hrest' m hm
    · exact hrest' m hm

theorem walk_mkdirAllAndChown (path0 : Str) (mode : Nat) (owner : Option (Nat × Nat))
    (hG : ∀ s, MkdirCall R (clean path0) mode owner s → G s) :
    (mkdirAllAndChownP path0 mode owner).Sem G R (fun _ => True) := by
  unfold mkdirAllAndChownP
  refine Prog.Sem.bind _ _ (sem_sys _ (hG _ (.stat List.mem_cons_self)) fun _ hr => hr) fun r hr => ?_
  split
  · exact ite_both trivial trivial
  · refine Prog.Sem.bind _ _ (walk_missingOf _ fun d hd => hG _ (.stat (List.mem_cons_of_mem _ hd))) fun missing hmiss => ?_
    refine Prog.Sem.bind _ _ (Q := fun _ => True) (sem_any _ (hG _ .mkdirAll)) fun m _ => ite_both trivial ?_
    refine (calls_setAll mode owner _).sem fun s ⟨p, hp, hs⟩ => ?_
    rcases List.mem_append.mp hp with h1 | h1
    · split at h1
      · rw [List.mem_singleton] at h1
        exact hG s (.perm (h1 ▸ List.mem_cons_self) (h1 ▸ hr) ‹_› hs)
      · cases h1
    · obtain ⟨hd, r', hr', he'⟩ := hmiss p h1
      exact hG s (.perm (List.mem_cons_of_mem _ hd) hr' he' hs)

theorem walk_impliedDirs (dest n : Str) (o : Opts) (hl : G (.lstat (join dest (dir n))))
    (hG : ∀ s, MkdirCall R (clean (join dest (dir n))) impliedMode (rootPair o) s → G s) :
    (impliedDirsP dest n o).Sem G R (fun _ => True) :=
  ite_both trivial (Prog.Sem.bind _ _ (sem_any _ hl) fun _ _ =>
    ite_both (walk_mkdirAllAndChown _ _ _ hG) trivial)

end GA
