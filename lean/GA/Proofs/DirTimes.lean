import GA.Proofs.EntryLink
import GA.Proofs.Frame
/-
  The deferred directory-time pass of both loops.  It touches only the inodes its entries name, and of those only
  the time (`dirTimes_inv`: whatever each of its `utimes` calls keeps, the pass keeps); seen from one directory,
  the last entry for it sets its time (`dirTimes_sets`).
-/
namespace GA

theorem dirTimes_cons_run (dest : Str) (d : Entry) (l : List Entry) (w : World) :
    (dirTimesP dest (d :: l)).run w =
      if notDirRes (step w (.lstat (join dest d.name))).1 = true then (dirTimesP dest l).run w
      else if isErr (step w (.utimes (join dest d.name) (some (boundTime d.mtime)) true)).1 = true
        then (.err, (step w (.utimes (join dest d.name) (some (boundTime d.mtime)) true)).2)
        else (dirTimesP dest l).run (step w (.utimes (join dest d.name) (some (boundTime d.mtime)) true)).2 := by
  simp only [dirTimesP]
  rw [run_sys_bind, lstat_world]
  split
  · rfl
  · rw [run_sys_bind]
    split
    · rfl
    · rfl

/-- a call is made only where the `lstat` before it, in the same world, did not find something other than a directory -/
theorem dirTimes_inv (dp : Path) (dest : Str) (K : World → Prop) : ∀ (ds : List Entry) (w : World), LW dp w →
    DirsOK dp dest ds →
    (∀ d ∈ ds, ∀ w, LW dp w → notDirRes (step w (.lstat (join dest d.name))).1 = false → K w →
      K (step w (.utimes (join dest d.name) (some (boundTime d.mtime)) true)).2) → K w →
    LW dp ((dirTimesP dest ds).run w).2 ∧ K ((dirTimesP dest ds).run w).2
  | [], w, hw, _, _, hk => ⟨hw, hk⟩
  | d :: ds, w, hw, hds, hK, hk => by
    have ih := fun w' hw' hk' => dirTimes_inv dp dest K ds w' hw' (fun x hx => hds x (by simp [hx]))
      (fun x hx => hK x (by simp [hx])) hk'
    rw [dirTimes_cons_run]
    split
    · exact ih w hw hk
    · rename_i hl
      have hgood := (step_good dp w (.utimes (join dest d.name) (some (boundTime d.mtime)) true) hw
        (good_lex (s := .utimes (join dest d.name) (some (boundTime d.mtime)) true) (hds d (by simp)))).2
      have hk' := hK d (by simp) w hw (by simpa using hl) hk
      split
      · exact ⟨hgood, hk'⟩
      · exact ih _ hgood hk'

theorem utimes_after_lstat (dp : Path) (w : World) (hw : LW dp w) (path : Str) (hp : LexArg dp path) (t : Int)
    (hl : notDirRes (step w (.lstat path)).1 = false) (i : Ino) (n : Inode) (hi : w.fs.inode i = some n)
    (hk : n.kind ≠ .dir) : (step w (.utimes path (some t) true)).2.fs.inode i = some n := by
  rcases (ModBy.utimes t true).effect w with ⟨e, he⟩ | ⟨fl, q, j, hr, hj, he⟩ <;> rw [he]
  · exact hi
  · by_cases hji : i = j
    · -- the path names this inode: the `lstat` would have said "not a directory"
      subst hji
      rcases statRes_lex dp w hw path hp false with ⟨e, hres, _⟩ | ⟨hres, ⟨hnone, _⟩ | ⟨i', m, hl', hm, hs⟩⟩
      · rw [hres fl] at hr; cases hr
      · rw [hres fl] at hr; cases hr; rw [hnone] at hj; cases hj
      · rw [hres fl] at hr
        cases hr
        rw [hl'] at hj
        cases hj
        rw [hm] at hi
        cases hi
        simp only [step, hs, notDirRes, statOf] at hl
        exact absurd (by simpa using hl) hk
    · exact (inode_modInode_ne _ _ _ _ hji).trans hi

/-- the deferred directory-time pass keeps the invariant and leaves every inode that is not a directory
    exactly as it was (it looks before it touches) -/
theorem dirTimes_nondir (dp : Path) (dest : Str) : ∀ (ds : List Entry) (w : World), LW dp w → DirsOK dp dest ds →
    LW dp ((dirTimesP dest ds).run w).2 ∧
    ∀ i n, w.fs.inode i = some n → n.kind ≠ .dir → ((dirTimesP dest ds).run w).2.fs.inode i = some n :=
  fun ds w hw hds => ⟨(dirTimes_inv dp dest (fun _ => True) ds w hw hds (fun _ _ _ _ _ _ => trivial) trivial).1,
    fun i n hi hk => (dirTimes_inv dp dest (fun w' => w'.fs.inode i = some n) ds w hw hds
      (fun d hd w' hw' hl h => utimes_after_lstat dp w' hw' _ (hds d hd) _ hl i n h hk) hi).2⟩

theorem utimes_erase (w : World) (p : Str) (t : Int) (fl : Bool) (j : Ino) :
    ((step w (.utimes p (some t) fl)).2.fs.inode j).map eraseM = (w.fs.inode j).map eraseM := by
  rcases (ModBy.utimes t fl).effect w with ⟨e, he⟩ | ⟨_, _, i, _, _, he⟩ <;> rw [he]
  by_cases hji : j = i
  · rw [hji, inode_modInode, if_pos rfl]
    cases w.fs.inode i <;> simp [eraseM]
  · rw [inode_modInode_ne _ _ _ _ hji]

theorem dirTimes_erase (dp : Path) (dest : Str) : ∀ (ds : List Entry) (w : World), LW dp w → DirsOK dp dest ds →
    LW dp ((dirTimesP dest ds).run w).2 ∧
    ∀ j, (((dirTimesP dest ds).run w).2.fs.inode j).map eraseM = (w.fs.inode j).map eraseM :=
  fun ds w hw hds => dirTimes_inv dp dest (fun w' => ∀ j, (w'.fs.inode j).map eraseM = (w.fs.inode j).map eraseM) ds w hw hds
    (fun _ _ w' _ _ h j => (utimes_erase w' _ _ true j).trans (h j)) fun _ => rfl

/-- a directory has one name: a call on another path goes to another inode -/
theorem utimes_other (dp : Path) (w : World) (hw : LW dp w) (path : Str) (hp : LexArg dp path) (t : Int) (fl : Bool)
    (P : Path) (i : Ino) (n : Inode) (hl : w.fs.lookup P = some i) (hi : w.fs.inode i = some n) (hk : n.kind = .dir)
    (hne : pathComps path ≠ P) : (step w (.utimes path (some t) fl)).2.fs.inode i = some n := by
  rcases (ModBy.utimes t fl).step hp w hw with ⟨j, hj, he⟩ | ⟨he, _⟩ <;> rw [he]
  · have hji : i ≠ j := fun e => hne (hw.inv.dirone _ _ i n (e ▸ hj) hl hi hk)
    rw [inode_modInode_ne _ _ _ _ hji]; exact hi
  · exact hi

theorem dirTimes_avoid (dp : Path) (dest : Str) (P : Path) (i : Ino) (n : Inode) (hk : n.kind = .dir) :
    ∀ (ds : List Entry) (w : World), LW dp w → DirsOK dp dest ds →
    (∀ d ∈ ds, pathComps (join dest d.name) ≠ P) → w.fs.lookup P = some i → w.fs.inode i = some n →
    ((dirTimesP dest ds).run w).2.fs.inode i = some n :=
  fun ds w hw hds hav hl hi => (dirTimes_inv dp dest (fun w' => w'.fs.lookup P = some i ∧ w'.fs.inode i = some n) ds w hw hds
    (fun d hd w' hw' _ h => ⟨by rw [(ModBy.utimes _ true).lookup_kept]; exact h.1,
      utimes_other dp w' hw' _ (hds d hd) _ true P i n h.1 h.2 hk (hav d hd)⟩) ⟨hl, hi⟩).2.2

theorem dirTimes_hit (dp : Path) (dest : Str) (P : Path) (i : Ino) (n : Inode) (hk : n.kind = .dir)
    (d : Entry) (ds : List Entry) (w : World) (hw : LW dp w) (hds : DirsOK dp dest (d :: ds))
    (hd : pathComps (join dest d.name) = P) (hav : ∀ x ∈ ds, pathComps (join dest x.name) ≠ P)
    (hl : w.fs.lookup P = some i) (hi : w.fs.inode i = some n)
    (hok : ((dirTimesP dest (d :: ds)).run w).1 = .ok) :
    ((dirTimesP dest (d :: ds)).run w).2.fs.inode i = some { n with mtime := some (boundTime d.mtime) } := by
  have hp : LexArg dp (join dest d.name) := hds d (by simp)
  -- `lstat` finds the directory, so the call is made; it succeeded, so it went through inode `i`
  have hlst : ¬ notDirRes (step w (.lstat (join dest d.name))).1 = true := by
    cases hs : (step w (.lstat (join dest d.name))).1 with
    | stat s =>
      obtain ⟨i', n', hl', hi', rfl⟩ := stat_obj dp w hw _ hp false s hs
      rw [hd, hl] at hl'; cases hl'
      rw [hi] at hi'; cases hi'
      simp [notDirRes, statOf, hk]
    | _ => simp [notDirRes]
  rw [dirTimes_cons_run, if_neg hlst] at hok ⊢
  rcases (ModBy.utimes (boundTime d.mtime) true).step hp w hw with ⟨j, hj, he⟩ | ⟨_, herr⟩
  · obtain rfl : i = j := Option.some.inj (hl.symm.trans (hd ▸ hj))
    have hgood := (step_good dp w _ hw (good_lex (s := .utimes (join dest d.name) (some (boundTime d.mtime)) true) hp)).2
    rw [he] at hok hgood ⊢
    exact dirTimes_avoid dp dest P i _ (by simpa using hk) ds _ hgood (fun x hx => hds x (by simp [hx])) hav
      (by simp only; rw [lookup_modInode]; exact hl) (inode_modInode_self w.fs i _ n hi)
  · rw [if_pos herr] at hok; cases hok

theorem dirTimes_append (dest : Str) : ∀ (a b : List Entry) (w : World),
    ((dirTimesP dest (a ++ b)).run w).1 = .ok →
    ((dirTimesP dest a).run w).1 = .ok ∧
      (dirTimesP dest (a ++ b)).run w = (dirTimesP dest b).run ((dirTimesP dest a).run w).2
  | [], b, w, _ => ⟨rfl, rfl⟩
  | d :: a, b, w, h => by
    rw [List.cons_append] at h ⊢
    rw [dirTimes_cons_run dest d (a ++ b) w] at h ⊢
    rw [dirTimes_cons_run dest d a w]
    by_cases hc : notDirRes (step w (.lstat (join dest d.name))).1 = true
    · simp only [hc, if_true] at h ⊢
      exact dirTimes_append dest a b w h
    · simp only [hc] at h ⊢
      by_cases he : isErr (step w (.utimes (join dest d.name) (some (boundTime d.mtime)) true)).1 = true
      · simp only [he, if_true] at h; cases h
      · simp only [he] at h ⊢
        exact dirTimes_append dest a b _ h

theorem eraseM_of_map {x : Option Inode} {n : Inode} (h : x.map eraseM = some (eraseM n)) :
    ∃ n', x = some n' ∧ eraseM n' = eraseM n := by
  cases x with
  | none => cases h
  | some n' => exact ⟨n', rfl, Option.some.inj h⟩

/-- **the deferred pass, seen from the directory at `P`**: the list holds an entry `d` for `P` and after it only
    entries for other paths; if the pass succeeds the directory carries `d`'s (clamped) time, and nothing else about
    it has changed — whatever the entries before `d` name -/
theorem dirTimes_sets (dp : Path) (dest : Str) (P : Path) (i : Ino) (n : Inode) (hk : n.kind = .dir) (a b : List Entry)
    (d : Entry) (w : World) (hw : LW dp w) (hds : DirsOK dp dest (a ++ d :: b)) (hd : pathComps (join dest d.name) = P)
    (hav : ∀ x ∈ b, pathComps (join dest x.name) ≠ P) (hl : w.fs.lookup P = some i) (hi : w.fs.inode i = some n)
    (hok : ((dirTimesP dest (a ++ d :: b)).run w).1 = .ok) :
    ∃ n', ((dirTimesP dest (a ++ d :: b)).run w).2.fs.inode i = some n' ∧ eraseM n' = eraseM n ∧
      n'.mtime = some (boundTime d.mtime) := by
  obtain ⟨_, hsplit⟩ := dirTimes_append dest a (d :: b) w hok
  rw [hsplit] at hok ⊢
  have hea := dirTimes_erase dp dest a w hw (fun x hx => hds x (List.mem_append_left _ hx))
  have hia := hea.2 i
  rw [hi] at hia
  obtain ⟨na, hina, hena⟩ := eraseM_of_map hia
  have hka : na.kind = .dir := (congrArg Inode.kind hena).trans hk
  have hhit := dirTimes_hit dp dest P i na hka d b _ hea.1 (fun x hx => hds x (List.mem_append_right _ hx)) hd hav
    (by rw [KeepsNames.run _ _ (keeps_dirTimes dest a)]; exact hl) hina hok
  exact ⟨_, hhit, hena, rfl⟩

end GA
