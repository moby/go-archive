import GA.Proofs.Lexical
/-
  Invariants of a symlink-free world under the file-system primitives: no symbolic link appears unless one
  is created (`KindsFrom`), the destination stays a directory (`DirKept`), every component of every name is an
  ordinary name (`NameWF`), the name space is a tree (`TreeWF`), a directory has one name (`DirOne`).  Each
  invariant is shown for the three kinds of change of `FSChange` (`of_same`, `extend`, `filter`); the
  statements about the primitives follow.  `resolve_enoent_absent`: in such a tree a resolution that answers
  "no such file" means that nothing exists at or beneath the path.
-/
namespace GA

def KindsFrom (K : Kind → Prop) (fs fs' : FS) : Prop :=
  ∀ p n', fs'.get p = some n' → K n'.kind ∨ ∃ p0 n, fs.get p0 = some n ∧ n'.kind = n.kind

theorem KindsFrom.refl (K : Kind → Prop) (fs : FS) : KindsFrom K fs fs :=
  fun p n' h => Or.inr ⟨p, n', h, rfl⟩

theorem KindsFrom.trans {K : Kind → Prop} {a b c : FS} (h1 : KindsFrom K a b) (h2 : KindsFrom K b c) : KindsFrom K a c := by
  intro p n' h
  rcases h2 p n' h with hk | ⟨p0, n, hn, he⟩
  · exact Or.inl hk
  · rcases h1 p0 n hn with hk | ⟨p1, m, hm, he'⟩
    · exact Or.inl (by rw [he]; exact hk)
    · exact Or.inr ⟨p1, m, hm, by rw [he, he']⟩

theorem NoSym.of_kindsFrom {fs fs' : FS} (h : NoSym fs) (hk : KindsFrom (· ≠ .sym) fs fs') : NoSym fs' := by
  intro p n' hp
  rcases hk p n' hp with hk | ⟨p0, n, hn, he⟩
  · exact hk
  · rw [he]; exact h p0 n hn

theorem prefix_antisymm {a b : List Str} (h1 : a <+: b) (h2 : b <+: a) : a = b :=
  h1.eq_of_length_le h2.length_le

theorem get_kind {fs : FS} {p : Path} {n : Inode} (h : fs.get p = some n) :
    ∃ i, fs.lookup p = some i ∧ fs.kindAt i = some n.kind := by
  rw [get_def] at h
  cases hl : fs.lookup p with
  | none => rw [hl] at h; cases h
  | some i => rw [hl] at h; exact ⟨i, rfl, kindAt_of_inode h⟩

theorem get_of_kind {fs : FS} {p : Path} {i : Ino} {k : Kind} (hl : fs.lookup p = some i) (hk : fs.kindAt i = some k) :
    ∃ n, fs.get p = some n ∧ n.kind = k := by
  obtain ⟨n, hn, e⟩ := kindAt_eq_some.mp hk
  exact ⟨n, by rw [get_def, hl]; exact hn, e⟩

theorem KindsFrom.of_same (K : Kind → Prop) {fs fs' : FS} (h : SameKinds fs fs') : KindsFrom K fs fs' := by
  intro p n' hg
  obtain ⟨i, hl, hk⟩ := get_kind hg
  obtain ⟨n, hn, e⟩ := get_of_kind ((h.lookup p).symm.trans hl) ((h.kind i).symm.trans hk)
  exact .inr ⟨p, n, hn, e.symm⟩

theorem KindsFrom.extend (K : Kind → Prop) {fs fs' : FS} {q : Path} {i : Ino} (h : Extends fs fs' q i)
    (hi : ∀ k, fs'.kindAt i = some k → K k ∨ ∃ p0 n, fs.get p0 = some n ∧ k = n.kind) : KindsFrom K fs fs' := by
  intro p n' hg
  obtain ⟨j, hl, hk⟩ := get_kind hg
  rcases lookup_new_or_old h.lookup hl with ⟨_, rfl⟩ | hl
  · exact hi _ hk
  · obtain ⟨n, hn, e⟩ := get_of_kind hl ((h.kind p j hl).symm.trans hk)
    exact .inr ⟨p, n, hn, e.symm⟩

theorem kindsFrom_create (K : Kind → Prop) (fs : FS) (q : Path) (m : Inode) (hn : fs.lookup q = none)
    (hf : NextFresh fs) (hm : K m.kind) : KindsFrom K fs (fs.create q m) :=
  .extend K (extends_create fs q m hn hf) fun k hk => by
    rw [kindAt_create_new] at hk; cases hk; exact .inl hm

theorem kindsFrom_addName (K : Kind → Prop) (fs : FS) (q qo : Path) (i : Ino) (hn : fs.lookup q = none)
    (ho : fs.lookup qo = some i) : KindsFrom K fs (fs.addName q i) :=
  .extend K (extends_addName fs q i hn) fun k hk => by
    obtain ⟨n, hg, e⟩ := get_of_kind ho (((extends_addName fs q i hn).kind qo i ho).symm.trans hk)
    exact .inr ⟨qo, n, hg, e.symm⟩

theorem kindsFrom_filter (K : Kind → Prop) (fs : FS) (keep : Path → Bool) :
    KindsFrom K fs ({ fs with names := fs.names.filter (fun e => keep e.1) } : FS) := by
  intro p n' h
  right
  rw [get_def, lookup_filterNames] at h
  split at h
  · exact ⟨p, n', h, rfl⟩
  · cases h

theorem kindsFrom_removeSubtree (K : Kind → Prop) (fs : FS) (q : Path) : KindsFrom K fs (fs.removeSubtree q) :=
  (kindsFrom_filter K fs (fun p => !(under q p))).trans (.of_same K (.touchParent _ q))

theorem kindsFrom_removeBelow (K : Kind → Prop) (fs : FS) (q : Path) : KindsFrom K fs (fs.removeBelow q) :=
  removeBelow_cases fs q (.refl K fs) fun _ _ =>
    (kindsFrom_filter K fs (fun p => !(under q p) || p == q)).trans (.of_same K (.modInode _ _ _ (fun _ => rfl)))

def DirKept (dp : Path) (fs fs' : FS) : Prop := fs.isDir dp = true → fs'.isDir dp = true

theorem DirKept.trans {dp : Path} {a b c : FS} (h1 : DirKept dp a b) (h2 : DirKept dp b c) : DirKept dp a c :=
  fun h => h2 (h1 h)

theorem DirKept.of_same (dp : Path) {fs fs' : FS} (hs : SameKinds fs fs') : DirKept dp fs fs' :=
  fun h => (hs.isDir_eq dp).trans h

theorem dirKept_filter (dp : Path) (fs : FS) (keep : Path → Bool) (hk : keep dp = true) :
    DirKept dp fs ({ fs with names := fs.names.filter (fun e => keep e.1) } : FS) :=
  fun h => by rw [isDir_filterNames, hk, h]; rfl

theorem dirKept_removeSubtree (dp : Path) (fs : FS) (q : Path) (hu : under dp q = true) (hne : q ≠ dp) :
    DirKept dp fs (fs.removeSubtree q) :=
  (dirKept_filter dp fs (fun p => !(under q p)) (by rw [not_under_of_under hu hne]; rfl)).trans
    (.of_same dp (.touchParent _ q))

theorem dirKept_removeBelow (dp : Path) (fs : FS) (q : Path) (hu : under dp q = true) :
    DirKept dp fs (fs.removeBelow q) := by
  refine removeBelow_cases fs q (fun h => h) fun _ _ => ?_
  refine (dirKept_filter dp fs (fun p => !(under q p) || p == q) ?_).trans
    (.of_same dp (.modInode _ _ _ (fun _ => rfl)))
  by_cases he : q = dp
  · simp [he]
  · simp [not_under_of_under hu he]

def NameWF (fs : FS) : Prop := ∀ p i, fs.lookup p = some i → ∀ c ∈ p, Norm c

theorem NameWF.of_same {fs fs' : FS} (h : NameWF fs) (hs : SameKinds fs fs') : NameWF fs' :=
  fun p i hp => h p i ((hs.lookup p).symm.trans hp)

theorem NameWF.extend {fs fs' : FS} {q : Path} {i : Ino} (h : NameWF fs)
    (hl : ∀ p, fs'.lookup p = if p = q then some i else fs.lookup p) (hq : ∀ c ∈ q, Norm c) : NameWF fs' :=
  fun p j hp => (lookup_new_or_old hl hp).elim (fun e => e.1 ▸ hq) (h p j)

theorem NameWF.create {fs : FS} (h : NameWF fs) (q : Path) (n : Inode) (hn : fs.lookup q = none)
    (hq : ∀ c ∈ q, Norm c) : NameWF (fs.create q n) := h.extend (lookup_create fs q n hn) hq

theorem NameWF.addName {fs : FS} (h : NameWF fs) (q : Path) (i : Ino) (hn : fs.lookup q = none)
    (hq : ∀ c ∈ q, Norm c) : NameWF (fs.addName q i) := h.extend (extends_addName fs q i hn).lookup hq

theorem NameWF.filter {fs : FS} (h : NameWF fs) (keep : Path → Bool) :
    NameWF ({ fs with names := fs.names.filter (fun e => keep e.1) } : FS) :=
  fun p j hp => h p j (lookup_filterNames_some hp).1

theorem NameWF.removeSubtree {fs : FS} (h : NameWF fs) (q : Path) : NameWF (fs.removeSubtree q) :=
  (h.filter (fun p => !(under q p))).of_same (.touchParent _ q)

theorem NameWF.removeBelow {fs : FS} (h : NameWF fs) (q : Path) : NameWF (fs.removeBelow q) :=
  removeBelow_cases fs q h fun _ _ =>
    (h.filter (fun p => !(under q p) || p == q)).of_same (.modInode _ _ _ (fun _ => rfl))

structure TreeWF (fs : FS) : Prop where
  has_inode : ∀ p i, fs.lookup p = some i → (fs.inode i).isSome = true
  parent_dir : ∀ p i, fs.lookup p = some i → p ≠ [] → fs.isDir p.dropLast = true

theorem TreeWF.of_same {fs fs' : FS} (h : TreeWF fs) (hs : SameKinds fs fs') : TreeWF fs' :=
  ⟨fun p i hp => by rw [← kindAt_isSome, hs.kind, kindAt_isSome]; exact h.has_inode p i ((hs.lookup p).symm.trans hp),
   fun p i hp hne => (hs.isDir_eq _).trans (h.parent_dir p i ((hs.lookup p).symm.trans hp) hne)⟩

theorem TreeWF.extend {fs fs' : FS} {q : Path} {i : Ino} (h : TreeWF fs) (he : Extends fs fs' q i)
    (hi : (fs'.inode i).isSome = true) (hpd : fs.isDir q.dropLast = true) : TreeWF fs' := by
  constructor
  · intro p j hp
    rcases lookup_new_or_old he.lookup hp with ⟨_, rfl⟩ | hp
    · exact hi
    · rw [← kindAt_isSome, he.kind p j hp, kindAt_isSome]; exact h.has_inode p j hp
  · intro p j hp hne
    rcases lookup_new_or_old he.lookup hp with ⟨rfl, _⟩ | hp
    · exact he.isDir_mono hpd
    · exact he.isDir_mono (h.parent_dir p j hp hne)

theorem TreeWF.create {fs : FS} (h : TreeWF fs) (q : Path) (n : Inode) (hn : fs.lookup q = none) (hf : NextFresh fs)
    (hpd : fs.isDir q.dropLast = true) : TreeWF (fs.create q n) :=
  h.extend (extends_create fs q n hn hf) (by rw [← kindAt_isSome, kindAt_create_new]; rfl) hpd

theorem TreeWF.addName {fs : FS} (h : TreeWF fs) (q qo : Path) (i : Ino) (hn : fs.lookup q = none)
    (ho : fs.lookup qo = some i) (hpd : fs.isDir q.dropLast = true) : TreeWF (fs.addName q i) :=
  have he := extends_addName fs q i hn
  h.extend he (by rw [← kindAt_isSome, he.kind qo i ho, kindAt_isSome]; exact h.has_inode qo i ho) hpd

theorem under_dropLast_of_under {q p : Path} (h : under q p.dropLast = true) : under q p = true := by
  simp only [under, List.isPrefixOf_iff_prefix] at h ⊢
  exact h.trans (List.dropLast_prefix p)

theorem TreeWF.filter {fs : FS} (h : TreeWF fs) (keep : Path → Bool)
    (hk : ∀ p, keep p = true → p ≠ [] → keep p.dropLast = true) :
    TreeWF ({ fs with names := fs.names.filter (fun e => keep e.1) } : FS) := by
  refine ⟨fun p j hp => h.has_inode p j (lookup_filterNames_some hp).1, fun p j hp hne => ?_⟩
  obtain ⟨hp, hkp⟩ := lookup_filterNames_some hp
  rw [isDir_filterNames, hk p hkp hne, h.parent_dir p j hp hne]; rfl

theorem not_under_dropLast {q p : Path} (h : under q p = false) : under q p.dropLast = false := by
  cases hu : under q p.dropLast with
  | false => rfl
  | true => rw [under_dropLast_of_under hu] at h; cases h

theorem TreeWF.removeSubtree {fs : FS} (h : TreeWF fs) (q : Path) : TreeWF (fs.removeSubtree q) := by
  refine (h.filter (fun p => !(under q p)) ?_).of_same (.touchParent _ q)
  intro p hp _
  simp only [Bool.not_eq_true'] at hp ⊢
  exact not_under_dropLast hp

theorem TreeWF.removeBelow {fs : FS} (h : TreeWF fs) (q : Path) : TreeWF (fs.removeBelow q) := by
  refine removeBelow_cases fs q h fun _ _ => ?_
  refine (h.filter (fun p => !(under q p) || p == q) ?_).of_same (.modInode _ _ _ (fun _ => rfl))
  intro p hp hne
  simp only [Bool.or_eq_true, Bool.not_eq_true', beq_iff_eq] at hp ⊢
  left
  rcases hp with hp | rfl
  · exact not_under_dropLast hp
  · -- the parent of `q` is shorter than `q`
    cases hu : under p p.dropLast with
    | false => rfl
    | true =>
      simp only [under, List.isPrefixOf_iff_prefix] at hu
      have := hu.length_le
      cases p with
      | nil => exact absurd rfl hne
      | cons a as => simp at this; omega

/-- nothing beneath a missing name: a name one component longer would make the missing one a directory -/
theorem TreeWF.absent_below {fs : FS} (h : TreeWF fs) : ∀ (ext pre : Path), fs.lookup pre = none →
    fs.lookup (pre ++ ext) = none
  | [], pre, hp => by simpa using hp
  | c :: ext, pre, hp => by
    rw [List.append_cons]
    refine h.absent_below ext _ ?_
    cases hl : fs.lookup (pre ++ [c]) with
    | none => rfl
    | some i =>
      have hd := h.parent_dir _ i hl (by simp)
      rw [List.dropLast_concat, isDir_iff, get_def, hp] at hd
      obtain ⟨_, hg, _⟩ := hd
      cases hg

theorem get_none_lookup_none {fs : FS} (h : TreeWF fs) {p : Path} (hg : fs.get p = none) : fs.lookup p = none := by
  cases hl : fs.lookup p with
  | none => rfl
  | some i =>
    have := h.has_inode p i hl
    rw [get_def, hl] at hg
    simp only [Option.bind_some] at hg
    rw [hg] at this; cases this

theorem resolve_enoent_absent {w : World} (hr : w.root = []) (hns : NoSym w.fs) (ht : TreeWF w.fs) {p : Str} {fl : Bool}
    (hne : p ≠ []) (hdd : dotdot ∉ pathComps p) (h : resolve w p fl = .err .ENOENT) (ext : Path) :
    w.fs.lookup (pathComps p ++ ext) = none := by
  have hd := walk_descent w.fs w.root hns walkFuel 40 w.root (pathComps p) (fl || mustDir p) hdd
  rw [resolve_enoent_walk hne h, hr] at hd
  cases hd with
  | enoent hpre hg =>
    obtain ⟨ext0, he0⟩ := hpre
    rw [← he0, List.append_assoc]
    exact ht.absent_below _ _ (get_none_lookup_none ht hg)

/-! ### a directory has exactly one name
  (link(2) refuses directories; the invariant lets a statement about "the directory at p" speak about its inode) -/

def DirOne (fs : FS) : Prop :=
  ∀ p q i n, fs.lookup p = some i → fs.lookup q = some i → fs.inode i = some n → n.kind = .dir → p = q

theorem DirOne.kind {fs : FS} (h : DirOne fs) {p q : Path} {i : Ino} (hp : fs.lookup p = some i)
    (hq : fs.lookup q = some i) (hk : fs.kindAt i = some .dir) : p = q :=
  let ⟨n, hn, e⟩ := kindAt_eq_some.mp hk
  h p q i n hp hq hn e

theorem DirOne.of_same {fs fs' : FS} (h : DirOne fs) (hs : SameKinds fs fs') : DirOne fs' :=
  fun p q i _ hp hq hi hd => h.kind ((hs.lookup p).symm.trans hp) ((hs.lookup q).symm.trans hq)
    ((hs.kind i).symm.trans (hd ▸ kindAt_of_inode hi))

theorem DirOne.extend {fs fs' : FS} {q : Path} {i : Ino} (h : DirOne fs) (he : Extends fs fs' q i)
    (hi : ∀ p, fs.lookup p = some i → fs.kindAt i ≠ some .dir) : DirOne fs' := by
  intro p p' j n hp hp' hj hd
  have hk : fs'.kindAt j = some .dir := hd ▸ kindAt_of_inode hj
  rw [he.lookup] at hp hp'
  split at hp <;> split at hp'
  · rw [‹p = q›, ‹p' = q›]
  · cases hp; exact absurd ((he.kind p' _ hp').symm.trans hk) (hi p' hp')
  · cases hp'; exact absurd ((he.kind p _ hp).symm.trans hk) (hi p hp)
  · exact h.kind hp hp' ((he.kind p j hp).symm.trans hk)

theorem DirOne.create {fs : FS} (h : DirOne fs) (q : Path) (n : Inode) (hn : fs.lookup q = none) (hf : NextFresh fs) :
    DirOne (fs.create q n) :=
  h.extend (extends_create fs q n hn hf) fun p hp => absurd (hf p _ hp) (Nat.lt_irrefl _)

theorem DirOne.addName {fs : FS} (h : DirOne fs) (q qo : Path) (i : Ino) (hn : fs.lookup q = none)
    (ho : fs.lookup qo = some i) (hnd : fs.isDir qo = false) : DirOne (fs.addName q i) :=
  h.extend (extends_addName fs q i hn) fun _ _ hk => by
    rw [(isDir_iff_kindAt fs qo).mpr ⟨i, ho, hk⟩] at hnd; cases hnd

theorem DirOne.filter {fs : FS} (h : DirOne fs) (keep : Path → Bool) :
    DirOne ({ fs with names := fs.names.filter (fun e => keep e.1) } : FS) :=
  fun p q i n hp hq => h p q i n (lookup_filterNames_some hp).1 (lookup_filterNames_some hq).1

theorem DirOne.removeSubtree {fs : FS} (h : DirOne fs) (q : Path) : DirOne (fs.removeSubtree q) :=
  (h.filter (fun x => !(under q x))).of_same (.touchParent _ q)

theorem DirOne.removeBelow {fs : FS} (h : DirOne fs) (q : Path) : DirOne (fs.removeBelow q) :=
  removeBelow_cases fs q h fun _ _ =>
    (h.filter (fun x => !(under q x) || x == q)).of_same (.modInode _ _ _ (fun _ => rfl))

end GA
