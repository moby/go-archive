import GA.Proofs.FSChange
/-
  Generic confinement: whatever program runs with thread root `r`, the filesystem outside `r`
  is untouched.  `Confined` has three clauses (names outside are the same; inodes all of whose
  names were outside are unchanged; no such inode acquires a name inside) — together they are
  transitive, which is what the induction over `Prog` needs.  Here `Confined` under each primitive of `FS`
  (`create_confined`, `removeSubtree_confined`, …); calls and programs are in `ConfineStep`.
-/
namespace GA

def OutsideOnly (r : Path) (fs : FS) (i : Ino) : Prop :=
  (∃ p, fs.lookup p = some i) ∧ ∀ p, fs.lookup p = some i → under r p = false

structure Confined (r : Path) (fs fs' : FS) : Prop where
  names_out : ∀ p, under r p = false → fs'.lookup p = fs.lookup p
  inode_out : ∀ i, OutsideOnly r fs i → fs'.inode i = fs.inode i
  no_capture : ∀ i, OutsideOnly r fs i → ∀ p, fs'.lookup p = some i → under r p = false

theorem Confined.refl (r : Path) (fs : FS) : Confined r fs fs :=
  ⟨fun _ _ => rfl, fun _ _ => rfl, fun _ h p hp => h.2 p hp⟩

theorem OutsideOnly.step {r : Path} {fs fs' : FS} (h : Confined r fs fs') {i : Ino}
    (ho : OutsideOnly r fs i) : OutsideOnly r fs' i := by
  obtain ⟨⟨p, hp⟩, hall⟩ := ho
  refine ⟨⟨p, ?_⟩, h.no_capture i ⟨⟨p, hp⟩, hall⟩⟩
  rw [h.names_out p (hall p hp)]; exact hp

theorem Confined.trans {r : Path} {a b c : FS} (h₁ : Confined r a b) (h₂ : Confined r b c) :
    Confined r a c := by
  refine ⟨?_, ?_, ?_⟩
  · intro p hp; rw [h₂.names_out p hp, h₁.names_out p hp]
  · intro i hi; rw [h₂.inode_out i (hi.step h₁), h₁.inode_out i hi]
  · intro i hi; exact h₂.no_capture i (hi.step h₁)

theorem under_trans {r q p : Path} (h1 : under r q = true) (h2 : under q p = true) : under r p = true := by
  simp only [under, List.isPrefixOf_iff_prefix] at *
  exact List.IsPrefix.trans h1 h2

theorem under_refl (r : Path) : under r r = true := by simp [under]

theorem under_append (r q : Path) (c : Str) (h : under r q = true) : under r (q ++ [c]) = true := by
  simp only [under, List.isPrefixOf_iff_prefix] at *
  exact List.IsPrefix.trans h (List.prefix_append _ _)

theorem under_dropLast {r q : Path} (h : under r q = true) (hne : q ≠ r) : under r q.dropLast = true := by
  simp only [under, List.isPrefixOf_iff_prefix] at h ⊢
  obtain ⟨t, rfl⟩ := h
  rcases List.eq_nil_or_concat t with rfl | ⟨xs, x, rfl⟩
  · simp at hne
  · rw [List.concat_eq_append, ← List.append_assoc, List.dropLast_concat]
    exact List.prefix_append _ _

theorem not_under_of_under {dp q : Path} (hu : under dp q = true) (hne : q ≠ dp) : under q dp = false := by
  cases hq : under q dp with
  | false => rfl
  | true =>
    simp only [under, List.isPrefixOf_iff_prefix] at hu hq
    exact absurd (hq.eq_of_length_le hu.length_le) hne

theorem not_under_of_outside {r q p : Path} (hu : under r q = true) (hp : under r p = false) : under q p = false := by
  cases h : under q p with
  | false => rfl
  | true => rw [under_trans hu h] at hp; cases hp

theorem setInode_confined (r : Path) (fs : FS) (i : Ino) (n : Inode) (q : Path)
    (hq : fs.lookup q = some i) (hu : under r q = true) : Confined r fs (fs.setInode i n) := by
  refine ⟨fun p _ => rfl, ?_, fun j hj p hp => hj.2 p hp⟩
  intro j hj
  have : j ≠ i := by
    intro e; subst e
    have := hj.2 q hq
    rw [hu] at this; cases this
  exact inode_setInode_ne fs i j n this

theorem modInode_confined (r : Path) (fs : FS) (i : Ino) (f : Inode → Inode) (q : Path)
    (hq : fs.lookup q = some i) (hu : under r q = true) : Confined r fs (fs.modInode i f) := by
  rcases modInode_eq fs i f with e | ⟨n, _, e⟩
  · rw [e]; exact .refl r fs
  · rw [e]; exact setInode_confined r fs i _ q hq hu

theorem touchParent_confined (r : Path) (fs : FS) (q : Path) (hu : under r q.dropLast = true) :
    Confined r fs (fs.touchParent q) := by
  fun_cases FS.touchParent fs q
  case case1 i hi => exact modInode_confined r fs i _ q.dropLast hi hu
  case case2 => exact Confined.refl r fs

theorem Confined.adds {r : Path} {fs fs' : FS} {q : Path} {i : Ino} (h : AddsName fs fs' q i) (hu : under r q = true)
    (hi : ¬ OutsideOnly r fs i) : Confined r fs fs' := by
  refine ⟨fun p hp => h.lookup_ne fun e => ?_, fun j hj => h.inode j fun e => hi (e ▸ hj), fun j hj p hp => ?_⟩
  · rw [e, hu] at hp; cases hp
  · rcases lookup_new_or_old h.lookup hp with ⟨_, e⟩ | hp
    · exact absurd (e ▸ hj) hi
    · exact hj.2 p hp

theorem create_confined (r : Path) (fs : FS) (q : Path) (n : Inode) (hn : fs.lookup q = none)
    (hu : under r q = true) (hp : under r q.dropLast = true) (hf : NextFresh fs) :
    Confined r fs (fs.create q n) :=
  (Confined.adds (addsName_appendNew fs q n hn) hu fun ⟨⟨p, hp⟩, _⟩ => Nat.lt_irrefl _ (hf p _ hp)).trans
    (touchParent_confined r _ q hp)

theorem addName_confined (r : Path) (fs : FS) (q qo : Path) (i : Ino) (hn : fs.lookup q = none)
    (hu : under r q = true) (hp : under r q.dropLast = true)
    (ho : fs.lookup qo = some i) (huo : under r qo = true) :
    Confined r fs (fs.addName q i) :=
  (Confined.adds (addsName_append fs q i hn) hu fun hi => Bool.noConfusion ((hi.2 qo ho).symm.trans huo)).trans
    (touchParent_confined r _ q hp)

theorem filter_confined (r : Path) (fs : FS) (keep : Path → Bool)
    (hk : ∀ p, under r p = false → keep p = true) :
    Confined r fs ({ fs with names := fs.names.filter (fun e => keep e.1) } : FS) := by
  refine ⟨fun p hp => ?_, fun _ _ => rfl, fun j hj p hpj => hj.2 p (lookup_filterNames_some hpj).1⟩
  rw [lookup_filterNames, hk p hp]; rfl

theorem removeSubtree_confined (r : Path) (fs : FS) (q : Path) (hu : under r q = true)
    (hp : under r q.dropLast = true) : Confined r fs (fs.removeSubtree q) := by
  unfold FS.removeSubtree
  refine Confined.trans (filter_confined r fs (fun p => !(under q p)) ?_) (touchParent_confined r _ q hp)
  intro p hpo
  simp only [not_under_of_outside hu hpo, Bool.not_false]

theorem removeBelow_confined (r : Path) (fs : FS) (q : Path) (hu : under r q = true) :
    Confined r fs (fs.removeBelow q) := by
  refine removeBelow_cases fs q (.refl r fs) fun i hi => ?_
  refine Confined.trans (filter_confined r fs (fun p => !(under q p) || p == q) ?_) ?_
  · intro p hpo
    simp only [not_under_of_outside hu hpo, Bool.not_false, Bool.true_or]
  · refine modInode_confined r _ i _ q ?_ hu
    have := lookup_filter fs.names (fun p => !(under q p) || p == q) q
    simp only [beq_self_eq_true, Bool.or_true, if_true] at this
    exact this.trans hi

end GA
