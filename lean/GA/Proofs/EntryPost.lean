import GA.Proofs.LexCall
/-
  What `createTarFile` leaves at the entry's path, in a symlink-free world, by kind of entry.  The metadata phase is
  one Hoare triple (`applyMeta_plainF`) for any facts `R0` about the object's nature that owner, mode, time and
  attributes do not disturb, ending in `PlainFinal R0`; regular-file, directory and node entries are instances
  (`RegFinal`, `DirFinal`, `NodeFinal`): the call that creates the object (`Made` of `LexCall`, or a directory that is
  there: `ObjF`), then that phase on its inode, put together by `Triple.bindErr` — `createTarFile_reg_made`,
  `createTarFile_dir_merges`, `createTarFile_node_made`.  Corollaries without the frame, in `Obj` (`applyMeta_plain`,
  `applyMeta_reg`, `createTarFile_reg_exact`, `_dev_exact`, `_fifo_exact`), and read at a run (`_dir_any`,
  `_node_any`).
-/
namespace GA

theorem setXattrsF (dp : Path) (path : Str) (hp : LexArg dp path) (i : Ino) (w0 : World) (best : Bool) (R : Inode → Prop)
    (hR : ∀ n xs, R n → R { n with xattrs := xs }) :
    ∀ (xs : List (Str × List UInt8)), Triple (ObjF dp path i w0 R) (setXattrsP path best xs) (fun _ w' => ObjF dp path i w0 R w') := by
  intro xs
  fun_induction setXattrsP path best xs
  case case1 => exact Triple.pure _ (fun _ h => h)
  case case2 k v _ ih =>
    refine Triple.bind (Q := fun _ w' => ObjF dp path i w0 R w') _ _
      (Triple.conseq _ (modF dp path hp i w0 (.setxattr k v false) R) (fun _ h => h) fun r w' h => ?_)
      (fun r => Triple.ite (fun _ => Triple.pure _ (fun _ h => h)) (fun _ => ih))
    cases hr : isErr r with
    | true => exact h.1 hr
    | false => exact (h.2 hr).mono fun _ ⟨n, hn, e⟩ => e ▸ hR n _ hn

theorem Triple.bindErr {P P' : World → Prop} {Q : Out → World → Prop} (m : Prog Res) (rest : Prog Out)
    (hm : Triple P m (fun r w => isErr r = false → P' w)) (hrest : Triple P' rest Q) (herr : ∀ w, Q .err w) :
    Triple P (m >>= fun r => if isErr r then Pure.pure Out.err else rest) Q :=
  Triple.bind _ _ hm (fun r => Triple.ite (fun _ => Triple.pure _ (fun w _ => herr w))
    (fun h => Triple.conseq _ hrest (fun w hw => hw (by simpa using h)) (fun _ _ h => h)))

def PlainFinal (R0 : Inode → Prop) (e : Entry) (o : Opts) (n : Inode) : Prop :=
  R0 n ∧ n.perm = e.mode &&& 0o7777 ∧ n.mtime = some (boundTime e.mtime) ∧
  (o.noLchown = false → (n.uid, n.gid) = o.chownOpts.getD (e.uid, e.gid))

/-- **the metadata phase**, for an entry that is neither a hard link nor a symbolic link: owner, then attributes, then
    mode, then time, all on the one inode the path names; nothing else changes -/
theorem applyMeta_plainF (dp : Path) (path : Str) (e : Entry) (o : Opts) (hp : LexArg dp path)
    (hnl : (e.typ == .link) = false) (hns : (e.typ != .sym) = true) (R0 : Inode → Prop)
    (hc0 : ∀ n u g, R0 n → R0 (chownInode n u g)) (hm0 : ∀ n p, R0 n → R0 { n with perm := p })
    (ht0 : ∀ n t, R0 n → R0 { n with mtime := t }) (hx0 : ∀ n xs, R0 n → R0 { n with xattrs := xs }) (i : Ino) (w0 : World) :
    Triple (ObjF dp path i w0 R0) (applyMetaP path e o)
      (fun out w' => out = .ok → ObjF dp path i w0 (PlainFinal R0 e o) w') := by
  let Own (n : Inode) : Prop := o.noLchown = false → (n.uid, n.gid) = o.chownOpts.getD (e.uid, e.gid)
  unfold applyMetaP
  simp only [hnl, hns, Bool.false_eq_true, if_false, if_true]
  refine Triple.bindErr (P' := ObjF dp path i w0 (fun n => R0 n ∧ Own n)) _ _ ?_ ?_ (fun _ h => by cases h)
  · refine Triple.ite (fun hno => Triple.pure _ (fun w h _ => h.mono (fun n hn => ⟨hn, fun h' => by rw [hno] at h'; cases h'⟩)))
      (fun _ => Triple.conseq _ (modF dp path hp i w0 (.chown _ _ false) R0) (fun _ h => h) (fun c w' hq hc => ?_))
    refine (hq.2 hc).mono ?_
    rintro n' ⟨n, hn, rfl⟩
    have hk := chownInode_keeps n (o.chownOpts.getD (e.uid, e.gid)).1 (o.chownOpts.getD (e.uid, e.gid)).2
    exact ⟨hc0 n _ _ hn, fun _ => by rw [hk.2.2.1, hk.2.2.2]⟩
  refine Triple.bindErr (P' := ObjF dp path i w0 (fun n => R0 n ∧ Own n)) _ _ ?_ ?_ (fun _ h => by cases h)
  · exact Triple.conseq _ (setXattrsF dp path hp i w0 _ _ (fun n xs h => ⟨hx0 n xs h.1, h.2⟩) e.xattrs) (fun _ h => h)
      (fun _ _ h _ => h)
  refine Triple.bindErr (P' := ObjF dp path i w0 (fun n => R0 n ∧ Own n ∧ n.perm = e.mode &&& 0o7777)) _ _ ?_ ?_
    (fun _ h => by cases h)
  · refine Triple.conseq _ (modF dp path hp i w0 (.chmod e.mode) _) (fun _ h => h) (fun m w' hq hm => (hq.2 hm).mono ?_)
    rintro n' ⟨n, hn, rfl⟩
    exact ⟨hm0 n _ hn.1, hn.2, rfl⟩
  refine Triple.bindErr (P' := ObjF dp path i w0 (PlainFinal R0 e o)) _ _ ?_ (Triple.pure _ (fun _ h _ => h))
    (fun _ h => by cases h)
  refine Triple.conseq _ (modF dp path hp i w0 (.utimes (boundTime e.mtime) true) _) (fun _ h => h)
    (fun u w' hq hu => (hq.2 hu).mono ?_)
  rintro n' ⟨n, hn, rfl⟩
  exact ⟨ht0 n _ hn.1, hn.2.2, rfl, hn.2.1⟩

theorem applyMeta_plain (dp : Path) (path : Str) (e : Entry) (o : Opts) (hp : LexArg dp path)
    (hnl : (e.typ == .link) = false) (hns : (e.typ != .sym) = true) (R0 : Inode → Prop)
    (hc0 : ∀ n u g, R0 n → R0 (chownInode n u g)) (hm0 : ∀ n p, R0 n → R0 { n with perm := p })
    (ht0 : ∀ n t, R0 n → R0 { n with mtime := t }) (hx0 : ∀ n xs, R0 n → R0 { n with xattrs := xs }) :
    Triple (Obj dp path R0) (applyMetaP path e o)
      (fun out w' => out = .ok → Obj dp path (PlainFinal R0 e o) w') := by
  intro w h hok
  obtain ⟨i, hF⟩ := h.objF
  exact (applyMeta_plainF dp path e o hp hnl hns R0 hc0 hm0 ht0 hx0 i w w hF hok).obj

def RegFinal (e : Entry) (o : Opts) (n : Inode) : Prop :=
  n.kind = .reg ∧ n.data = e.body ∧ n.perm = e.mode &&& 0o7777 ∧ n.mtime = some (boundTime e.mtime) ∧
  (o.noLchown = false → (n.uid, n.gid) = o.chownOpts.getD (e.uid, e.gid))

theorem applyMeta_reg (dp : Path) (path : Str) (e : Entry) (o : Opts) (hp : LexArg dp path) (hreg : e.typ = .reg) :
    Triple (Obj dp path (fun n => n.kind = .reg ∧ n.data = e.body)) (applyMetaP path e o)
      (fun out w' => out = .ok → Obj dp path (RegFinal e o) w') :=
  Triple.conseq _ (applyMeta_plain dp path e o hp (by rw [hreg]; rfl) (by rw [hreg]; rfl) _
      (fun n u g h => by rw [(chownInode_keeps n u g).1, (chownInode_keeps n u g).2.1]; exact h) (fun _ _ h => h)
      (fun _ _ h => h) (fun _ _ h => h))
    (fun _ h => h) (fun _ _ h hok => (h hok).mono (fun _ hn => ⟨hn.1.1, hn.1.2, hn.2⟩))

theorem applyMeta_made (dp : Path) (path : Str) (e : Entry) (o : Opts) (hp : LexArg dp path)
    (hnl : (e.typ == .link) = false) (hns : (e.typ != .sym) = true) (R0 : Inode → Prop)
    (hc0 : ∀ n u g, R0 n → R0 (chownInode n u g)) (hm0 : ∀ n p, R0 n → R0 { n with perm := p })
    (ht0 : ∀ n t, R0 n → R0 { n with mtime := t }) (hx0 : ∀ n xs, R0 n → R0 { n with xattrs := xs }) (w0 : World) :
    Triple (Made dp path R0 w0) (applyMetaP path e o) (fun out w' => out = .ok → Made dp path (PlainFinal R0 e o) w0 w') :=
  fun w h hok => h.after (applyMeta_plainF dp path e o hp hnl hns R0 hc0 hm0 ht0 hx0 _ w w h.objF hok)

/-- **a regular-file entry written to a fresh path**: the path is then the one name of a new regular file with exactly
    the entry's content, mode, (clamped) modification time and — unless `NoLchown` — owner; the declared size is not
    larger than the content -/
theorem createTarFile_reg_made (dp : Path) (path xd : Str) (e : Entry) (o : Opts) (hp : LexArg dp path)
    (hreg : e.typ = .reg) (w0 : World) :
    Triple (fun w => w = w0 ∧ LW dp w ∧ Absent path w) (createTarFileP path xd e o)
      (fun out w' => out = .ok → Made dp path (RegFinal e o) w0 w' ∧ e.size ≤ e.body.length) := by
  unfold createTarFileP
  simp only [hreg]
  refine Triple.bindErr (P' := Made dp path (fun n => n.kind = .reg ∧ n.data = e.body) w0) _ _
    (Triple.sys _ fun w ⟨e0, hw, habs⟩ hr => e0 ▸ createWrite_made dp path hp _ _ w hw habs hr) ?_
    (fun _ h => by cases h)
  refine Triple.ite (fun _ => Triple.pure _ (fun _ _ h => by cases h)) fun hsz => ?_
  refine Triple.conseq _ (applyMeta_made dp path e o hp (by rw [hreg]; rfl) (by rw [hreg]; rfl) _
      (fun n u g h => by rw [(chownInode_keeps n u g).1, (chownInode_keeps n u g).2.1]; exact h) (fun _ _ h => h)
      (fun _ _ h => h) (fun _ _ h => h) w0) (fun _ h => h) fun out w' h hok => ⟨?_, by omega⟩
  obtain ⟨hw', hnames, n, hi, hn⟩ := h hok
  exact ⟨hw', hnames, n, hi, hn.1.1, hn.1.2, hn.2⟩

theorem createTarFile_reg_exact (dp : Path) (path xd : Str) (e : Entry) (o : Opts) (hp : LexArg dp path)
    (hreg : e.typ = .reg) :
    Triple (fun w => LW dp w ∧ w.fs.lookup (pathComps path) = none) (createTarFileP path xd e o)
      (fun out w' => out = .ok → Obj dp path (RegFinal e o) w' ∧ e.size ≤ e.body.length) :=
  fun w h hok => (createTarFile_reg_made dp path xd e o hp hreg w w ⟨rfl, h.1, .inl h.2⟩ hok).imp Made.obj id

def DirFinal (e : Entry) (o : Opts) (n : Inode) : Prop :=
  n.kind = .dir ∧ n.perm = e.mode &&& 0o7777 ∧ n.mtime = some (boundTime e.mtime) ∧
  (o.noLchown = false → (n.uid, n.gid) = o.chownOpts.getD (e.uid, e.gid))

theorem applyMeta_dirF (dp : Path) (path : Str) (e : Entry) (o : Opts) (hp : LexArg dp path) (hdir : e.typ = .dir)
    (i : Ino) (w0 : World) :
    Triple (ObjF dp path i w0 (fun n => n.kind = .dir)) (applyMetaP path e o)
      (fun out w' => out = .ok → ObjF dp path i w0 (DirFinal e o) w') :=
  applyMeta_plainF dp path e o hp (by rw [hdir]; rfl) (by rw [hdir]; rfl) _
    (fun n u g h => by rw [(chownInode_keeps n u g).1]; exact h) (fun _ _ h => h) (fun _ _ h => h) (fun _ _ h => h) i w0

/-- **a directory entry onto an existing directory merges**: on success only that directory's own inode
    has changed, to the entry's mode, time and owner -/
theorem createTarFile_dir_merges (dp : Path) (path xd : Str) (e : Entry) (o : Opts) (hp : LexArg dp path)
    (hdir : e.typ = .dir) (i : Ino) (w0 : World) :
    Triple (ObjF dp path i w0 (fun n => n.kind = .dir)) (createTarFileP path xd e o)
      (fun out w' => out = .ok → ObjF dp path i w0 (DirFinal e o) w') := by
  unfold createTarFileP
  simp only [hdir]
  refine Triple.bind (Q := fun _ w' => ObjF dp path i w0 (fun n => n.kind = .dir) w') _ _
    (Triple.sys _ (fun w h => by simp only [step]; exact h)) (fun l => ?_)
  refine Triple.ite (fun _ => applyMeta_dirF dp path e o hp hdir i w0) (fun _ => ?_)
  -- the directory is there: `mkdir` fails
  refine Triple.bind (Q := fun r _ => isErr r = true) _ _
    (Triple.sys _ (fun w h => mkdir_existing dp path hp w h.1 i h.2.1 e.mode)) (fun r w hr => ?_)
  simp only [hr, if_true]
  intro h
  cases h

theorem chownInode_keeps_rdev (n : Inode) (u g : Nat) : (chownInode n u g).rdev = n.rdev := by
  fun_cases chownInode n u g <;> rfl

def NodeFinal (e : Entry) (o : Opts) (n : Inode) : Prop :=
  n.kind = kindOfTyp e.typ ∧ (e.typ ≠ .fifo → n.rdev = (e.devmajor, e.devminor)) ∧
  n.perm = e.mode &&& 0o7777 ∧ n.mtime = some (boundTime e.mtime) ∧
  (o.noLchown = false → (n.uid, n.gid) = o.chownOpts.getD (e.uid, e.gid))

theorem createTarFile_node_eq (path xd : Str) (e : Entry) (o : Opts) (hnode : e.typ = .chr ∨ e.typ = .blk ∨ e.typ = .fifo)
    (huns : o.inUserNS = false) :
    createTarFileP path xd e o = (do
      let r ← sys (.mknod path (kindOfTyp e.typ) e.mode (if e.typ = .fifo then (0, 0) else (e.devmajor, e.devminor)))
      if isErr r then return .err
      applyMetaP path e o) := by
  unfold createTarFileP
  rcases hnode with h | h | h <;>
    simp only [h, huns, Bool.false_eq_true, if_false, Bool.and_false, reduceCtorEq, if_true, kindOfTyp]

/-- **a device or fifo entry, outside a user namespace**: `mknod` refuses an existing name, so on success the path was
    absent, and it is then the one name of a new node of the entry's type, device number, mode, time and owner -/
theorem createTarFile_node_made (dp : Path) (path xd : Str) (e : Entry) (o : Opts) (hp : LexArg dp path)
    (hnode : e.typ = .chr ∨ e.typ = .blk ∨ e.typ = .fifo) (huns : o.inUserNS = false) (w0 : World) :
    Triple (fun w => w = w0 ∧ LW dp w) (createTarFileP path xd e o)
      (fun out w' => out = .ok → w0.fs.lookup (pathComps path) = none ∧ Made dp path (NodeFinal e o) w0 w') := by
  have hnl : (e.typ == .link) = false := by rcases hnode with h | h | h <;> rw [h] <;> rfl
  have hns : (e.typ != .sym) = true := by rcases hnode with h | h | h <;> rw [h] <;> rfl
  rw [createTarFile_node_eq path xd e o hnode huns]
  refine Triple.bindErr (P' := fun w => w0.fs.lookup (pathComps path) = none ∧ Made dp path
      (fun n => n.kind = kindOfTyp e.typ ∧ (e.typ ≠ .fifo → n.rdev = (e.devmajor, e.devminor))) w0 w) _ _
    (Triple.sys _ fun w ⟨e0, hw⟩ hr => ?_) ?_ (fun _ h => by cases h)
  · subst e0
    obtain ⟨hnone, hw', hnames, n, hi, hk, hrd⟩ := mknod_made dp path hp _ (kindOfTyp_ne_sym e.typ) _ _ w hw hr
    refine ⟨hnone, hw', hnames, n, hi, hk, fun hne => ?_⟩
    rw [hrd, if_neg hne]
    rcases hnode with h | h | h
    · rw [h]; rfl
    · rw [h]; rfl
    · exact absurd h hne
  · intro w ⟨hnone, hm⟩ hok
    obtain ⟨hw', hnames, n, hi, hn⟩ := applyMeta_made dp path e o hp hnl hns _
      (fun n u g h => ⟨by rw [(chownInode_keeps n u g).1]; exact h.1, by rw [chownInode_keeps_rdev]; exact h.2⟩)
      (fun n p h => h) (fun n t h => h) (fun n xs h => h) w0 w hm hok
    exact ⟨hnone, hw', hnames, n, hi, hn.1.1, hn.1.2, hn.2⟩

/-- **a device entry written to a fresh path** (outside a user namespace): on success the path names a
    node of the entry's type with the entry's device number, mode, time and owner -/
theorem createTarFile_dev_exact (dp : Path) (path xd : Str) (e : Entry) (o : Opts) (hp : LexArg dp path)
    (hdev : e.typ = .chr ∨ e.typ = .blk) (huns : o.inUserNS = false) :
    Triple (fun w => LW dp w ∧ w.fs.lookup (pathComps path) = none) (createTarFileP path xd e o)
      (fun out w' => out = .ok → Obj dp path
        (PlainFinal (fun n => n.kind = kindOfTyp e.typ ∧ n.rdev = (e.devmajor, e.devminor)) e o) w') := by
  have hnf : e.typ ≠ .fifo := by rcases hdev with h | h <;> rw [h] <;> decide
  intro w h hok
  exact (createTarFile_node_made dp path xd e o hp (hdev.elim Or.inl (fun h => Or.inr (Or.inl h))) huns w w ⟨rfl, h.1⟩ hok).2.obj.mono
    fun n hn => ⟨⟨hn.1, hn.2.1 hnf⟩, hn.2.2⟩

/-- **a directory entry, whatever is at the path**: when `createTarFile` reports success for a directory entry,
    the path names a directory with the entry's mode, time and owner (merged onto the directory that was
    there, or made afresh) -/
theorem createTarFile_dir_any (dp : Path) (path xd : Str) (e : Entry) (o : Opts) (hp : LexArg dp path)
    (hdir : e.typ = .dir) (w : World) (hw : LW dp w) (hok : ((createTarFileP path xd e o).run w).1 = .ok) :
    LW dp ((createTarFileP path xd e o).run w).2 ∧
    ∃ i n, ((createTarFileP path xd e o).run w).2.fs.lookup (pathComps path) = some i ∧
      ((createTarFileP path xd e o).run w).2.fs.inode i = some n ∧ DirFinal e o n := by
  by_cases hd : isDirRes (step w (.lstat path)).1 = true
  · obtain ⟨i, n, hl, hi, hk⟩ := lstat_isDir dp w hw path hp hd
    exact createTarFile_dir_merges dp path xd e o hp hdir i w w ⟨hw, hl, ⟨n, hi, hk⟩, Frame.refl i w⟩ hok |>.obj
  · unfold createTarFileP at hok ⊢
    simp only [hdir] at hok ⊢
    rw [run_sys_bind, lstat_world] at hok ⊢
    simp only [hd, Bool.false_eq_true, if_false] at hok ⊢
    rw [run_sys_bind] at hok ⊢
    by_cases hr : isErr (step w (.mkdir path e.mode)).1 = true
    · simp only [hr, if_true] at hok; cases hok
    · have hr' : isErr (step w (.mkdir path e.mode)).1 = false := by simpa using hr
      simp only [hr', Bool.false_eq_true, if_false] at hok ⊢
      obtain ⟨i, hobj⟩ := mkdir_fresh dp path hp e.mode w hw hr'
      exact (applyMeta_dirF dp path e o hp hdir i _ _ hobj hok).obj

theorem createTarFile_fifo_exact (dp : Path) (path xd : Str) (e : Entry) (o : Opts) (hp : LexArg dp path)
    (hf : e.typ = .fifo) (huns : o.inUserNS = false) :
    Triple (fun w => LW dp w ∧ w.fs.lookup (pathComps path) = none) (createTarFileP path xd e o)
      (fun out w' => out = .ok → Obj dp path (PlainFinal (fun n => n.kind = .fifo) e o) w') :=
  fun w h hok => (createTarFile_node_made dp path xd e o hp (.inr (.inr hf)) huns w w ⟨rfl, h.1⟩ hok).2.obj.mono
    fun n hn => ⟨hn.1.trans (by rw [hf]; rfl), hn.2.2⟩

/-- **a device or fifo entry, outside a user namespace**: when `createTarFile` reports success the path was
    absent, and it now names a fresh inode — with that one name — of the entry's type, device number, mode,
    time and owner -/
theorem createTarFile_node_any (dp : Path) (path xd : Str) (e : Entry) (o : Opts) (hp : LexArg dp path)
    (hnode : e.typ = .chr ∨ e.typ = .blk ∨ e.typ = .fifo) (huns : o.inUserNS = false)
    (w : World) (hw : LW dp w) (hok : ((createTarFileP path xd e o).run w).1 = .ok) :
    LW dp ((createTarFileP path xd e o).run w).2 ∧
    (∀ r, ((createTarFileP path xd e o).run w).2.fs.lookup r = if r = pathComps path then some w.fs.next else w.fs.lookup r) ∧
    ∃ n, ((createTarFileP path xd e o).run w).2.fs.inode w.fs.next = some n ∧ NodeFinal e o n :=
  (createTarFile_node_made dp path xd e o hp hnode huns w w ⟨rfl, hw⟩ hok).2

end GA
