import GA.Proofs.FrameUnpack
import GA.Proofs.DirTimes
/-
  Whole archives, from the run of the loop.  An iteration is followed from a world with the invariant through its two
  stages (`unpackClearP_run`, `iter_ok_inv`: it ends as `Written` of `EntryLink` says, whence what it leaves for each
  kind of entry: `iter_reg_post`, `iter_dir_post`, `iter_node_post`, `iter_link_post`).  A successful run is cut at
  one entry (`loopRun_split`): the frame of the later entries and the deferred directory-time pass, which changes only
  the times of directories, leave alone an object other than a directory that this entry made — "the last entry wins"
  (`unpackLoop_entry_kept`).  The first stage also carries the non-blocking argument: `os.RemoveAll` of a path that
  `lstat` has just found does not block (`removeAll_nb_of_lstat` in `LexNames`), which is the `blocked` component of
  `ClearPost`.
-/
namespace GA

/-- what the decision of `Unpack` tells about what `lstat` found and what the entry is: the four tests of `actOf`,
    case by case -/
theorem actOf_spec (o : Opts) (l : Res) (e : Entry) (self : Bool) :
    (actOf o l e self = 2 → self = true) ∧ (actOf o l e self = 3 → ∃ s, l = .stat s) ∧
    (e.typ ≠ .dir → ∀ s, l = .stat s → actOf o l e self = 1 ∨ actOf o l e self = 2 ∨ actOf o l e self = 3) := by
  fun_cases actOf o l e self
  case case1 | case2 => exact ⟨nofun, nofun, fun _ _ _ => .inl rfl⟩
  case case3 h => exact ⟨fun _ => (Bool.and_eq_true _ _ ▸ h).2, nofun, fun _ _ _ => .inr (.inl rfl)⟩
  case case4 => exact ⟨nofun, fun _ => ⟨_, rfl⟩, fun _ _ _ => .inr (.inr rfl)⟩
  -- the fourth test fails only for a directory entry
  case case5 h => exact ⟨nofun, nofun, fun hnd => (h (by simp [hnd])).elim⟩
  case case6 h => exact ⟨nofun, nofun, fun _ s hs => (h s hs).elim⟩

def unpackClearP (dest : Str) (o : Opts) (e : Entry) (p : Str) (dirs : List Entry) :
    Prog (Option (Except Out (List Entry))) :=
  unpackClearK dest o e p dirs (fun r => pure (some r)) (pure none)

theorem unpackClearK_eq_bind {β : Type} (dest : Str) (o : Opts) (e : Entry) (p : Str) (dirs : List Entry)
    (k : Except Out (List Entry) → Prog β) (go : Prog β) :
    unpackClearK dest o e p dirs k go =
      (unpackClearP dest o e p dirs).bind (fun v => match v with | some r => k r | none => go) := by
  unfold unpackClearP
  rw [unpackClearK_bind]
  rfl

/-- `some (.ok d)`: done with the entry, nothing written — `actOf` decides so only at the destination itself, hence
    `pathComps p = dp`.  `none`: on to the writing stage, with room made at `p` unless the entry is a directory. -/
def ClearPost (dp : Path) (e : Entry) (p : Str) (dirs : List Entry) (blocked : Bool)
    (c : Option (Except Out (List Entry)) × World) : Prop :=
  blocked = false ∧ LW dp c.2 ∧
  match c.1 with
  | some (.error out) => out = .err
  | some (.ok d) => d = dirs ∧ pathComps p = dp
  | none => e.typ ≠ .dir → Absent p c.2

theorem unpackClearP_run (dp : Path) (dest : Str) (o : Opts) (hd : CleanAbs dest) (hdp : pathComps dest = dp) (e : Entry)
    (p : Str) (hg : guardName dest (clean e.name) = .ok p) (dirs : List Entry) (w : World) (hw : LW dp w) :
    ClearPost dp e p dirs ((unpackClearP dest o e p dirs).blocks w) ((unpackClearP dest o e p dirs).run w) := by
  obtain ⟨hpe, hpc, hpin⟩ := guardName_ok dest (clean e.name) p hd hg
  rw [hdp] at hpin
  have hp : LexArg dp p := lexArg_of hpc hpin
  simp only [unpackClearP, unpackClearK]
  rw [Prog.bind_eq, blocks_bind, Prog.run_bind, NB.blocks _ _ (nb_impliedDirs dest (clean e.name) o), Bool.false_or]
  have hw1 := (LexSem.run dp _ _ w (lex_impliedDirs dp dest e.name o hd (hpe ▸ hpin)) hw).2.1
  generalize (impliedDirsP dest (clean e.name) o).run w = r1 at hw1 ⊢
  obtain ⟨i1, w1⟩ := r1
  simp only at hw1 ⊢
  by_cases hi : isErr i1 = true
  · rw [if_pos hi]; exact ⟨rfl, hw1, rfl⟩
  rw [if_neg hi, blocks_sys_bind, run_sys_bind, isBlockedR_false_of_ne (step_nb w1 (.lstat p) trivial), Bool.false_or, lstat_world]
  have h3ne := remove_not_dest dp dest o hd hdp e p hpc w1 hw1
  generalize hL : (step w1 (Sys.lstat p)).1 = L at h3ne
  -- the decision, value by value (`rw [if_pos _]` where `split` would take the rest of the program apart)
  by_cases ha1 : actOf o L e (p == clean dest) = 1
  · rw [if_pos ha1]; exact ⟨rfl, hw1, rfl⟩
  rw [if_neg ha1]
  by_cases ha2 : actOf o L e (p == clean dest) = 2
  · have hself : p = dest := by simpa [clean_of_cleanAbs dest hd] using (actOf_spec o L e _).1 ha2
    rw [if_pos ha2]
    exact ⟨rfl, hw1, rfl, by rw [hself, hdp]⟩
  rw [if_neg ha2]
  by_cases ha3 : actOf o L e (p == clean dest) = 3
  · obtain ⟨s, hs⟩ := (actOf_spec o L e _).2.1 ha3
    have hgood := step_good dp w1 (.removeAll p) hw1 (good_lex (s := .removeAll p) ⟨hp, h3ne ha3⟩)
    rw [if_pos ha3, blocks_sys_bind, run_sys_bind, removeAll_nb_of_lstat dp w1 hw1 p hp s (hL.trans hs), Bool.false_or]
    by_cases hok : isErr (step w1 (.removeAll p)).1 = true
    · rw [if_pos hok]; exact ⟨rfl, hgood.2, rfl⟩
    · rw [if_neg hok]
      exact ⟨rfl, hgood.2, fun _ => Or.inl ((removeAll_post dp w1 hw1 p hp (h3ne ha3)).1 (by simpa using hok) _ (under_refl _))⟩
  · simp only [ha3, if_false, Prog.pure_bind, isErr, Bool.false_eq_true]
    refine ⟨rfl, hw1, fun hnd => lstat_nostat dp w1 hw1 p hp (fun st hst => ?_)⟩
    rw [hL] at hst
    subst hst
    rcases (actOf_spec o (.stat st) e (p == clean dest)).2.2 hnd st rfl with h | h | h
    · exact ha1 h
    · exact ha2 h
    · exact ha3 h

theorem unpackWriteK_plain {β : Type} (dest : Str) (o : Opts) (hov : o.overlay = false) (e : Entry) (p : Str)
    (dirs : List Entry) (k : Except Out (List Entry) → Prog β) :
    unpackWriteK dest o e p dirs k = match remapE o e with
      | none => k (.error .err)
      | some e' => (createTarFileP p dest e' o).bind (fun out => if out != .ok then k (.error out)
          else k (.ok (if e.typ == .dir then { e' with name := clean e.name } :: dirs else dirs))) := by
  unfold unpackWriteK
  cases remapE o e with
  | none => rfl
  | some e' => simp only [hov, Bool.false_eq_true, if_false, Prog.pure_bind]; rfl

theorem iter_ok_inv (dp : Path) (dest : Str) (o : Opts) (hd : CleanAbs dest) (hdp : pathComps dest = dp)
    (hov : o.overlay = false) (e : Entry) (dirs : List Entry) (w : World) (hw : LW dp w) (hxg : e.typ ≠ .xglobal)
    (hnx : o.excludes.any (fun x => hasPrefix (clean e.name) x) = false)
    (hne : pathComps (join dest (clean e.name)) ≠ dp)
    (d' : List Entry) (w' : World) (hrun : (unpackIterP dest o e dirs).run w = (.ok d', w')) :
    Written dp dest o e (join dest (clean e.name)) w' ∧
      ∀ e', remapE o e = some e' → d' = if e.typ == .dir then { e' with name := clean e.name } :: dirs else dirs := by
  rw [unpackIterP_eq] at hrun
  unfold unpackIterK at hrun
  rw [if_neg (by simpa using hxg), if_neg (by simp [hnx])] at hrun
  cases hg : guardName dest (clean e.name) with
  | error out => rw [hg] at hrun; cases hrun
  | ok p =>
    rw [hg] at hrun
    simp only at hrun
    obtain ⟨hpe, hpc, hpin⟩ := guardName_ok dest (clean e.name) p hd hg
    subst hpe
    rw [unpackClearK_eq_bind, Prog.run_bind] at hrun
    obtain ⟨_, hw2, hres⟩ := unpackClearP_run dp dest o hd hdp e _ hg dirs w hw
    generalize (unpackClearP dest o e (join dest (clean e.name)) dirs).run w = c at hrun hw2 hres
    obtain ⟨v, w2⟩ := c
    match v with
    | some (.error out) => cases hrun
    | some (.ok d) => exact absurd hres.2 hne
    | none =>
      simp only at hrun hres hw2
      rw [unpackWriteK_plain dest o hov] at hrun
      cases hrem : remapE o e with
      | none => rw [hrem] at hrun; cases hrun
      | some e' =>
        rw [hrem] at hrun
        simp only at hrun
        rw [Prog.run_bind] at hrun
        cases hc : (createTarFileP (join dest (clean e.name)) dest e' o).run w2 with
        | mk out w3 =>
          rw [hc] at hrun
          match out with
          | .ok =>
            cases hrun
            exact ⟨⟨lexArg_of hpc (hdp ▸ hpin), e', w2, hrem, hw2, hres, hc⟩, fun _ h => by cases h; rfl⟩
          | .err => cases hrun
          | .breakout => cases hrun

/-- **one regular-file iteration**: if the loop goes on after a regular-file entry that is not excluded and
    does not name the destination itself, the entry's path names a regular file with exactly the entry's
    content, mode, clamped time and owner, that inode has no other name, and the deferred list is unchanged -/
theorem iter_reg_post (dp : Path) (dest : Str) (o : Opts) (hd : CleanAbs dest) (hdp : pathComps dest = dp)
    (hov : o.overlay = false) (e : Entry) (dirs : List Entry) (w : World) (hw : LW dp w) (hreg : e.typ = .reg)
    (hnx : o.excludes.any (fun x => hasPrefix (clean e.name) x) = false)
    (hne : pathComps (join dest (clean e.name)) ≠ dp)
    (d' : List Entry) (w' : World) (hrun : (unpackIterP dest o e dirs).run w = (.ok d', w')) :
    d' = dirs ∧ LW dp w' ∧ ∃ e' i n, remapE o e = some e' ∧
      w'.fs.lookup (pathComps (join dest (clean e.name))) = some i ∧
      (∀ q, w'.fs.lookup q = some i → q = pathComps (join dest (clean e.name))) ∧
      w'.fs.inode i = some n ∧ RegFinal e' o n := by
  obtain ⟨hwr, hd'⟩ := iter_ok_inv dp dest o hd hdp hov e dirs w hw (by rw [hreg]; decide) hnx hne d' w' hrun
  obtain ⟨hw', e', i, n, hrem, h⟩ := hwr.reg hreg
  exact ⟨by rw [hd' e' hrem, hreg]; rfl, hw', e', i, n, hrem, h⟩

/-- **one directory iteration**: if the loop goes on after a directory entry that is not excluded and does not
    name the destination itself, the entry's path names a directory with the entry's mode, owner and time (the
    time is set again by the deferred pass at the end of the loop), and the entry — under its cleaned name — is
    the newest element of the deferred list -/
theorem iter_dir_post (dp : Path) (dest : Str) (o : Opts) (hd : CleanAbs dest) (hdp : pathComps dest = dp)
    (hov : o.overlay = false) (e : Entry) (dirs : List Entry) (w : World) (hw : LW dp w) (hdir : e.typ = .dir)
    (hnx : o.excludes.any (fun x => hasPrefix (clean e.name) x) = false)
    (hne : pathComps (join dest (clean e.name)) ≠ dp)
    (d' : List Entry) (w' : World) (hrun : (unpackIterP dest o e dirs).run w = (.ok d', w')) :
    LW dp w' ∧ ∃ e' i n, remapE o e = some e' ∧ d' = { e' with name := clean e.name } :: dirs ∧
      w'.fs.lookup (pathComps (join dest (clean e.name))) = some i ∧
      w'.fs.inode i = some n ∧ DirFinal e' o n := by
  obtain ⟨hwr, hd'⟩ := iter_ok_inv dp dest o hd hdp hov e dirs w hw (by rw [hdir]; decide) hnx hne d' w' hrun
  obtain ⟨hw', e', i, n, hrem, h⟩ := hwr.dir hdir
  exact ⟨hw', e', i, n, hrem, by rw [hd' e' hrem, hdir]; rfl, h⟩

/-- **one device or fifo iteration** (outside a user namespace) -/
theorem iter_node_post (dp : Path) (dest : Str) (o : Opts) (hd : CleanAbs dest) (hdp : pathComps dest = dp)
    (hov : o.overlay = false) (huns : o.inUserNS = false) (e : Entry) (dirs : List Entry) (w : World) (hw : LW dp w)
    (hnode : e.typ = .chr ∨ e.typ = .blk ∨ e.typ = .fifo)
    (hnx : o.excludes.any (fun x => hasPrefix (clean e.name) x) = false)
    (hne : pathComps (join dest (clean e.name)) ≠ dp)
    (d' : List Entry) (w' : World) (hrun : (unpackIterP dest o e dirs).run w = (.ok d', w')) :
    d' = dirs ∧ LW dp w' ∧ ∃ e' i n, remapE o e = some e' ∧
      w'.fs.lookup (pathComps (join dest (clean e.name))) = some i ∧
      (∀ q, w'.fs.lookup q = some i → q = pathComps (join dest (clean e.name))) ∧
      w'.fs.inode i = some n ∧ NodeFinal e' o n := by
  have hnd : (e.typ == .dir) = false := by rcases hnode with h | h | h <;> rw [h] <;> rfl
  obtain ⟨hwr, hd'⟩ := iter_ok_inv dp dest o hd hdp hov e dirs w hw
    (by rcases hnode with h | h | h <;> rw [h] <;> decide) hnx hne d' w' hrun
  obtain ⟨hw', e', i, n, hrem, h⟩ := hwr.node hnode huns
  exact ⟨by rw [hd' e' hrem, hnd]; rfl, hw', e', i, n, hrem, h⟩

/-- **one hard-link iteration**: if the loop goes on after a hard-link entry that is not excluded and does not
    name the destination itself, the entry's path and `Join(destination, Linkname)` name one inode, and the
    deferred list is unchanged -/
theorem iter_link_post (dp : Path) (dest : Str) (o : Opts) (hd : CleanAbs dest) (hdp : pathComps dest = dp)
    (hov : o.overlay = false) (e : Entry) (dirs : List Entry) (w : World) (hw : LW dp w) (hlink : e.typ = .link)
    (hnx : o.excludes.any (fun x => hasPrefix (clean e.name) x) = false)
    (hne : pathComps (join dest (clean e.name)) ≠ dp)
    (d' : List Entry) (w' : World) (hrun : (unpackIterP dest o e dirs).run w = (.ok d', w')) :
    d' = dirs ∧ LW dp w' ∧ ∃ i,
      w'.fs.lookup (pathComps (join dest (clean e.name))) = some i ∧
      w'.fs.lookup (pathComps (join dest e.linkname)) = some i := by
  obtain ⟨hwr, hd'⟩ := iter_ok_inv dp dest o hd hdp hov e dirs w hw (by rw [hlink]; decide) hnx hne d' w' hrun
  obtain ⟨e', hrem⟩ := hwr.remap
  exact ⟨by rw [hd' e' hrem, hlink]; rfl, hwr.link hd hdp hlink⟩

theorem loopRun_split (dp : Path) (dest : Str) (o : Opts) (hd : CleanAbs dest) (hdp : pathComps dest = dp)
    (hov : o.overlay = false) (pre post : List Entry) (e : Entry) (dirs : List Entry) (w : World)
    (hsym : ∀ x ∈ pre ++ e :: post, x.typ ≠ .sym) (hw : LW dp w) (hdirs : DirsOK dp dest dirs)
    (hok : ((unpackLoop dest o (pre ++ e :: post) dirs).run w).1 = .ok) :
    ∃ d1 w1 d2 w2 d3 w3, LW dp w1 ∧ DirsOK dp dest d1 ∧ (unpackIterP dest o e d1).run w1 = (.ok d2, w2) ∧ LW dp w2 ∧
      loopRun dest o post d2 w2 = (.ok d3, w3) ∧ LW dp w3 ∧ DirsOK dp dest d3 ∧ Framed (touched dest post) w2.fs w3.fs ∧
      (unpackLoop dest o (pre ++ e :: post) dirs).run w = (dirTimesP dest d3.reverse).run w3 := by
  have hes : e.typ ≠ .sym := hsym e (by simp)
  rw [unpackLoop_run, loopRun_append] at hok ⊢
  have hpreF := loopRun_frame dp dest o hd hdp hov pre dirs w (fun x hx => hsym x (by simp [hx])) hw hdirs
  have hpreR := loopRun_error_ne_ok dest o pre dirs w
  generalize loopRun dest o pre dirs w = c1 at hok hpreF hpreR ⊢
  obtain ⟨r1, w1⟩ := c1
  cases r1 with
  | error out => exact absurd hok (hpreR out w1 rfl)
  | ok d1 =>
    simp only [loopRun] at hok hpreF ⊢
    have hit := LexSem.run dp _ _ w1 (lex_iter dp dest o hd hdp hov e d1 hes (hpreF.2.2 d1 rfl)) hpreF.2.1
    have hall := Prog.All.run _ w1 (iter_all dest o e d1)
    generalize hc2 : (unpackIterP dest o e d1).run w1 = c2 at hok hit hall ⊢
    obtain ⟨r2, w2⟩ := c2
    cases r2 with
    | error out => exact absurd hok hall
    | ok d2 =>
      simp only at hok hit ⊢
      have hpostF := loopRun_frame dp dest o hd hdp hov post d2 w2 (fun x hx => hsym x (by simp [hx])) hit.2.1
        (hit.2.2 d2 rfl)
      have hpostR := loopRun_error_ne_ok dest o post d2 w2
      generalize hc3 : loopRun dest o post d2 w2 = c3 at hok hpostF hpostR ⊢
      obtain ⟨r3, w3⟩ := c3
      cases r3 with
      | error out => exact absurd hok (hpostR out w3 rfl)
      | ok d3 =>
        exact ⟨d1, w1, d2, w2, d3, w3, hpreF.2.1, hpreF.2.2 d1 rfl, hc2, hit.2.1, hc3, hpostF.2.1, hpostF.2.2 d3 rfl,
          hpostF.1, rfl⟩

/-- the skeleton of "the last entry wins" for everything but directories: an object that is not a directory, has a
    single name and satisfies `R`, left at its path by the iteration of `e`, is what the whole run leaves there when
    nothing after `e` names the path, a path above or beneath it, or a hard link to it -/
theorem unpackLoop_entry_kept (dp : Path) (dest : Str) (o : Opts) (hd : CleanAbs dest) (hdp : pathComps dest = dp)
    (hov : o.overlay = false) (pre post : List Entry) (e : Entry) (dirs : List Entry) (w : World)
    (hsym : ∀ x ∈ pre ++ e :: post, x.typ ≠ .sym) (hw : LW dp w) (hdirs : DirsOK dp dest dirs)
    (hcov : ¬ Cov (touched dest post) (pathComps (join dest (clean e.name))))
    (hanc : ¬ Anc (touched dest post) (pathComps (join dest (clean e.name))))
    (hok : ((unpackLoop dest o (pre ++ e :: post) dirs).run w).1 = .ok) (R : Inode → Prop)
    (hpost : ∀ d1 w1 d2 w2, LW dp w1 → (unpackIterP dest o e d1).run w1 = (.ok d2, w2) →
      ∃ i n, w2.fs.lookup (pathComps (join dest (clean e.name))) = some i ∧
        (∀ q, w2.fs.lookup q = some i → q = pathComps (join dest (clean e.name))) ∧
        w2.fs.inode i = some n ∧ n.kind ≠ .dir ∧ R n) :
    ∃ i n, ((unpackLoop dest o (pre ++ e :: post) dirs).run w).2.fs.lookup (pathComps (join dest (clean e.name))) = some i ∧
      ((unpackLoop dest o (pre ++ e :: post) dirs).run w).2.fs.inode i = some n ∧ R n := by
  obtain ⟨d1, w1, d2, w2, d3, w3, hw1, _, hit, _, _, hw3, hd3, hF, hfin⟩ :=
    loopRun_split dp dest o hd hdp hov pre post e dirs w hsym hw hdirs hok
  obtain ⟨i, n, hl2, huniq, hi2, hk, hR⟩ := hpost d1 w1 d2 w2 hw1 hit
  rw [hfin]
  -- the remaining entries leave the object alone, and so does the deferred directory-time pass
  obtain ⟨hl3, _, _, hi3⟩ := hF.sole hl2 huniq hcov
  have hdt := dirTimes_nondir dp dest d3.reverse w3 hw3 (fun x hx => hd3 x (by simpa using hx))
  exact ⟨i, n, by rw [KeepsNames.run _ _ (keeps_dirTimes dest d3.reverse)]; exact hl3,
    hdt.2 i n ((hi3 hanc).trans hi2) hk, hR⟩

end GA
