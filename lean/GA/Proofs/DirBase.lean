import GA.Proofs.PathLemmas
/-
  `filepath.Split`, `Dir` and `Base`.  `Split` cuts a string into a part that is empty or ends in "/"
  and a part without "/", and it is the only such cut (`splitLast_eq`); `Dir`, `Base` (`dir_base_snoc`,
  `dir_cleanAbs`) and `os.MkdirAll`'s parent (`parent_comps_prefix`) are read off that.
-/
namespace GA

def DirForm (a : Str) : Prop := a = [] ∨ ∃ a', a = a' ++ [47]

theorem splitLast_append (t : Str) : (splitLast t).1 ++ (splitLast t).2 = t := by
  simp only [splitLast]
  rw [← List.reverse_append, List.takeWhile_append_dropWhile, List.reverse_reverse]

theorem splitLast_fst_dirForm (t : Str) : DirForm (splitLast t).1 := by
  simp only [splitLast]
  cases h : t.reverse.dropWhile (· ≠ 47) with
  | nil => exact Or.inl rfl
  | cons x xs =>
    have := List.head?_dropWhile_not (· ≠ 47) t.reverse
    rw [h] at this
    simp only [List.head?_cons, decide_eq_false_iff_not, ne_eq, Decidable.not_not] at this
    exact Or.inr ⟨xs.reverse, by rw [List.reverse_cons, this]⟩

theorem splitLast_snd_noSlash (s : Str) : NoSlash (splitLast s).2 := by
  intro hm
  simp only [splitLast, List.mem_reverse] at hm
  simpa using List.all_eq_true.mp List.all_takeWhile 47 hm

theorem splitLast_eq (a b : Str) (ha : DirForm a) (hb : NoSlash b) : splitLast (a ++ b) = (a, b) := by
  have hall : ∀ y ∈ b.reverse, (fun x : UInt8 => decide (x ≠ 47)) y = true := by
    intro y hy; simp only [decide_eq_true_eq]; intro e; subst e; exact hb (List.mem_reverse.mp hy)
  unfold splitLast
  rw [List.reverse_append, List.takeWhile_append_of_pos hall, List.dropWhile_append_of_pos hall]
  rcases ha with rfl | ⟨a', rfl⟩
  · simp
  · simp

theorem splitLast_snoc (pre c : Str) (hc : NoSlash c) : splitLast (pre ++ [47] ++ c) = (pre ++ [47], c) :=
  splitLast_eq _ c (Or.inr ⟨pre, rfl⟩) hc

theorem stripTrailingSlashes_append (p : Str) : ∃ k, stripTrailingSlashes p ++ k = p := by
  refine ⟨(p.reverse.takeWhile (· = 47)).reverse, ?_⟩
  simp only [stripTrailingSlashes]
  rw [← List.reverse_append, List.takeWhile_append_dropWhile, List.reverse_reverse]

theorem stripTrailingSlashes_append_noSlash (a c : Str) (h0 : c ≠ []) (hc : NoSlash c) :
    stripTrailingSlashes (a ++ c) = a ++ c := by
  rcases List.eq_nil_or_concat c with h1 | ⟨ini, l, h1⟩
  · exact absurd h1 h0
  · have hl : l ≠ 47 := by intro e; apply hc; rw [h1, e]; simp
    simp [stripTrailingSlashes, h1, hl]

theorem base_shape (s : Str) : base s = dot ∨ base s = slashStr ∨ NoSlash (base s) := by
  fun_cases base s
  case case1 => exact Or.inl rfl
  case case2 => exact Or.inr (Or.inl rfl)
  case case3 => exact Or.inr (Or.inr (splitLast_snd_noSlash _))

theorem pathComps_prefix_of_dirForm (a rest : Str) (h : DirForm a) : pathComps a <+: pathComps (a ++ rest) := by
  rcases h with rfl | ⟨a', rfl⟩
  · rw [pathComps_nil]; exact List.nil_prefix
  · rw [List.append_assoc, List.singleton_append, pathComps_append_slash, pathComps_append_slash, pathComps_nil,
      List.append_nil]
    exact List.prefix_append _ _

/-- the parent string `os.MkdirAll` recurses on names an ancestor (or the same components) -/
theorem parent_comps_prefix (p : Str) :
    pathComps (splitLast (stripTrailingSlashes p)).1 <+: pathComps p := by
  obtain ⟨k, hk⟩ := stripTrailingSlashes_append p
  have h1 := splitLast_append (stripTrailingSlashes p)
  have : p = (splitLast (stripTrailingSlashes p)).1 ++ ((splitLast (stripTrailingSlashes p)).2 ++ k) := by
    rw [← List.append_assoc, h1, hk]
  conv => rhs; rw [this]
  exact pathComps_prefix_of_dirForm _ _ (splitLast_fst_dirForm _)

theorem cleanAbs_snoc (cs : List Str) (c : Str) :
    (47 : UInt8) :: joinSlash (cs ++ [c]) = (if cs = [] then [] else 47 :: joinSlash cs) ++ [47] ++ c := by
  by_cases h : cs = []
  · subst h; rfl
  · simp [h, joinSlash_append cs [c] h (by simp), joinSlash]

theorem dir_base_snoc (cs : List Str) (c : Str) (h : ∀ x ∈ cs, Norm x) (hc : Norm c) :
    dir (47 :: joinSlash (cs ++ [c])) = 47 :: joinSlash cs ∧ base (47 :: joinSlash (cs ++ [c])) = c := by
  have hs := cleanAbs_snoc cs c
  constructor
  · unfold dir
    rw [hs, splitLast_snoc _ c hc.noSlash]
    by_cases h0 : cs = []
    · subst h0; exact clean_of_cleanAbs _ ⟨[], h, rfl⟩
    · -- "/cs/" cleans to "/cs": the empty last element is skipped
      simp only [h0, if_false]
      rw [(clean_abs_form _ rfl).1, cleanComps_join cs h []]
      simp [splitSlash, cleanStep_skip_empty]
  · unfold base
    rw [if_neg (List.cons_ne_nil _ _), hs, stripTrailingSlashes_append_noSlash _ c hc.1 hc.noSlash]
    simp only [splitLast_snoc _ c hc.noSlash, hc.1, if_false]

theorem join_snoc (cs : List Str) (c : Str) (h : ∀ x ∈ cs, Norm x) (hc : Norm c) :
    join (47 :: joinSlash cs) c = 47 :: joinSlash (cs ++ [c]) := by
  obtain ⟨cs', hcs', hj, hp⟩ := (pathComps_join cs h c).1.comps
  rw [hj, ← hp, (pathComps_join cs h c).2.1, splitSlash_noSlash c hc.noSlash]
  simp [cleanStep_push true _ hc.1 hc.2.1 hc.2.2.1]

theorem dir_cleanAbs {p : Str} (h : CleanAbs p) : CleanAbs (dir p) ∧ pathComps (dir p) = (pathComps p).dropLast := by
  obtain ⟨cs, hcs, rfl⟩ := h
  rw [pathComps_cleanAbs cs hcs]
  rcases List.eq_nil_or_concat cs with h0 | ⟨ini, l, h1⟩
  · subst h0
    have : dir (47 :: joinSlash []) = 47 :: joinSlash [] := by
      unfold dir
      rw [show (47 : UInt8) :: joinSlash [] = [47] ++ [] from rfl, splitLast_eq [47] [] (Or.inr ⟨[], rfl⟩) (by simp [NoSlash])]
      exact clean_of_cleanAbs _ ⟨[], hcs, rfl⟩
    rw [this]
    exact ⟨⟨[], hcs, rfl⟩, pathComps_cleanAbs [] hcs⟩
  · rw [List.concat_eq_append] at h1
    subst h1
    have hini : ∀ x ∈ ini, Norm x := fun x hx => hcs x (by simp [hx])
    rw [(dir_base_snoc ini l hini (hcs l (by simp))).1, List.dropLast_concat]
    exact ⟨⟨ini, hini, rfl⟩, pathComps_cleanAbs ini hini⟩

end GA
