import GA.Proofs.LayerPost
/-
  What one iteration of `UnpackLayer` leaves behind for an ordinary entry (name not reserved, not a whiteout, not
  the destination itself): regular file, directory, device or fifo (outside a user namespace), hard link whose
  source is not in the staging area (`iterL_reg_post`, `_dir_post`, `_node_post`, `_link_post`).  Each is
  `iterL_entry_inv` of `LayerPost` with the case of `Written` (`EntryLink`) for that kind.
-/
namespace GA

/-- **one regular-file iteration of a layer**: if the loop goes on after a regular-file entry whose name is not
    reserved, not a whiteout and not the destination itself, the entry's path names a regular file with exactly
    the entry's content, mode, clamped time and owner, and that inode has no other name -/
theorem iterL_reg_post (dp : Path) (dest : Str) (o : Opts) (hd : CleanAbs dest) (hdp : pathComps dest = dp)
    (e : Entry) (st : LState) (w : World) (hw : LW dp w) (hreg : e.typ = .reg)
    (hmeta : hasPrefix (clean e.name) whMetaPrefix = false)
    (hnwh : hasPrefix (base (join dest (clean e.name))) whPrefix = false)
    (hne : pathComps (join dest (clean e.name)) ≠ dp)
    (st' : LState) (w' : World) (hrun : (layerIterP dest o e st).run w = (.ok st', w')) :
    (st'.dirs = st.dirs ∧ st'.unpacked = join dest (clean e.name) :: st.unpacked) ∧ LW dp w' ∧ ∃ e' i n, remapE o e = some e' ∧
      w'.fs.lookup (pathComps (join dest (clean e.name))) = some i ∧
      (∀ q, w'.fs.lookup q = some i → q = pathComps (join dest (clean e.name))) ∧
      w'.fs.inode i = some n ∧ RegFinal e' o n := by
  obtain ⟨hwr, hdirs, hunp⟩ := iterL_entry_inv dp dest o hd hdp e st st' w w' hw
    (by simp [hreg]) hmeta hnwh hne (by simp [hreg]) hrun
  exact ⟨⟨by rw [hdirs, hreg]; rfl, hunp⟩, hwr.reg hreg⟩

/-- **one directory iteration of a layer**: if the loop goes on after a directory entry whose name is not
    reserved, not a whiteout and not the destination itself, the entry's path names a directory with the
    entry's mode, owner and time (the time is set again by the deferred pass at the end of the loop), and the
    entry — under its cleaned name — is the newest element of the deferred list -/
theorem iterL_dir_post (dp : Path) (dest : Str) (o : Opts) (hd : CleanAbs dest) (hdp : pathComps dest = dp)
    (e : Entry) (st : LState) (w : World) (hw : LW dp w) (hdir : e.typ = .dir)
    (hmeta : hasPrefix (clean e.name) whMetaPrefix = false)
    (hnwh : hasPrefix (base (join dest (clean e.name))) whPrefix = false)
    (hne : pathComps (join dest (clean e.name)) ≠ dp)
    (st' : LState) (w' : World) (hrun : (layerIterP dest o e st).run w = (.ok st', w')) :
    dp <+: pathComps (join dest (clean e.name)) ∧
    LW dp w' ∧ st'.dirs = { e with name := clean e.name } :: st.dirs ∧ ∃ e' i n, remapE o e = some e' ∧
      w'.fs.lookup (pathComps (join dest (clean e.name))) = some i ∧
      w'.fs.inode i = some n ∧ DirFinal e' o n := by
  obtain ⟨hwr, hdirs, _⟩ := iterL_entry_inv dp dest o hd hdp e st st' w w' hw
    (by simp [hdir]) hmeta hnwh hne (by simp [hdir]) hrun
  obtain ⟨hw3, h⟩ := hwr.dir hdir
  exact ⟨hwr.1.1, hw3, by rw [hdirs, hdir]; rfl, h⟩

theorem iterL_node_post (dp : Path) (dest : Str) (o : Opts) (hd : CleanAbs dest) (hdp : pathComps dest = dp)
    (huns : o.inUserNS = false) (e : Entry) (st : LState) (w : World) (hw : LW dp w)
    (hnode : e.typ = .chr ∨ e.typ = .blk ∨ e.typ = .fifo)
    (hmeta : hasPrefix (clean e.name) whMetaPrefix = false)
    (hnwh : hasPrefix (base (join dest (clean e.name))) whPrefix = false)
    (hne : pathComps (join dest (clean e.name)) ≠ dp)
    (st' : LState) (w' : World) (hrun : (layerIterP dest o e st).run w = (.ok st', w')) :
    st'.dirs = st.dirs ∧ LW dp w' ∧ ∃ e' i n, remapE o e = some e' ∧
      w'.fs.lookup (pathComps (join dest (clean e.name))) = some i ∧
      (∀ q, w'.fs.lookup q = some i → q = pathComps (join dest (clean e.name))) ∧
      w'.fs.inode i = some n ∧ NodeFinal e' o n := by
  obtain ⟨hwr, hdirs, _⟩ := iterL_entry_inv dp dest o hd hdp e st st' w w' hw
    (by rcases hnode with h | h | h <;> simp [h]) hmeta hnwh hne (by rcases hnode with h | h | h <;> simp [h]) hrun
  exact ⟨by rw [hdirs]; rcases hnode with h | h | h <;> rw [h] <;> rfl, hwr.node hnode huns⟩

theorem iterL_link_post (dp : Path) (dest : Str) (o : Opts) (hd : CleanAbs dest) (hdp : pathComps dest = dp)
    (e : Entry) (st : LState) (w : World) (hw : LW dp w) (hlink : e.typ = .link)
    (hnst : hasPrefix (clean e.linkname) whLinkDir = false)
    (hmeta : hasPrefix (clean e.name) whMetaPrefix = false)
    (hnwh : hasPrefix (base (join dest (clean e.name))) whPrefix = false)
    (hne : pathComps (join dest (clean e.name)) ≠ dp)
    (st' : LState) (w' : World) (hrun : (layerIterP dest o e st).run w = (.ok st', w')) :
    LW dp w' ∧ ∃ i,
      w'.fs.lookup (pathComps (join dest (clean e.name))) = some i ∧
      w'.fs.lookup (pathComps (join dest e.linkname)) = some i := by
  obtain ⟨hwr, _, _⟩ := iterL_entry_inv dp dest o hd hdp e st st' w w' hw
    (by simp [hlink]) hmeta hnwh hne (by simp [hnst]) hrun
  exact hwr.link hd hdp hlink

end GA
