import GA.Proofs.FrameStep
import GA.M.Unpack
/-
  Programs and the frame: `FrSem` — along the runs from worlds that satisfy the lexical invariant and the frame, every
  call the program makes is covered (`SysFr` of `FrameStep`).  Together with `LexSem` of `LexProg` (every call is
  lexically beneath the destination) the run keeps the frame (`FrSem.run`).  `AnsFr`: the answers of such worlds, for
  `FrSem.of_ans` / `.of_calls` from a `Prog.Sem` fact.  Then what "no such file" from `stat` entitles to in such a
  world: the lexical path has no name (`stat_enoent_absent`), so it is covered or had none when the extraction began
  (`stat_enoent_marg`: the `MArg` of `FrameStep` that `MkdirAllAndChown`'s mode and owner calls need).
-/
namespace GA

def FrSem (dp : Path) (T : List Path) (fs0 : FS) {α : Type} (Q : α → Prop) : Prog α → Prop
  | .ret a => Q a
  | .call s k => SysFr T fs0 s ∧ ∀ w, LW dp w → Framed T fs0 w.fs → FrSem dp T fs0 Q (k (step w s).1)

theorem FrSem.run {α : Type} (dp : Path) (T : List Path) (fs0 : FS) (h0 : NextFresh fs0) (Q R : α → Prop) :
    ∀ (p : Prog α) (w : World), LexSem dp Q p → FrSem dp T fs0 R p → LW dp w → Framed T fs0 w.fs →
    Framed T fs0 (p.run w).2.fs ∧ R (p.run w).1
  | .ret a, w, _, hr, _, hf => ⟨hf, hr⟩
  | .call s k, w, hl, hr, hw, hf => by
    have hs := step_good dp w s hw hl.1
    have hf' := step_good_frame dp T fs0 h0 w s hw hl.1 hf hr.1
    exact FrSem.run dp T fs0 h0 Q R (k (step w s).1) (step w s).2 (hl.2 w hw) (hr.2 w hw hf) hs.2 hf'

theorem FrSem.bind {α β : Type} (dp : Path) (T : List Path) (fs0 : FS) {Q : α → Prop} {R : β → Prop} :
    ∀ (m : Prog α) (f : α → Prog β), FrSem dp T fs0 Q m → (∀ a, Q a → FrSem dp T fs0 R (f a)) →
      FrSem dp T fs0 R (m.bind f)
  | .ret a, _, hm, hf => hf a hm
  | .call s k, f, hm, hf => ⟨hm.1, fun w hw hfr => FrSem.bind dp T fs0 (k (step w s).1) f (hm.2 w hw hfr) hf⟩

theorem FrSem.mono {α : Type} (dp : Path) (T : List Path) (fs0 : FS) {Q R : α → Prop} (h : ∀ a, Q a → R a) :
    ∀ (p : Prog α), FrSem dp T fs0 Q p → FrSem dp T fs0 R p
  | .ret a, hp => h a hp
  | .call s k, hp => ⟨hp.1, fun w hw hf => FrSem.mono dp T fs0 h (k (step w s).1) (hp.2 w hw hf)⟩

def AnsFr (dp : Path) (T : List Path) (fs0 : FS) (s : Sys) (r : Res) : Prop :=
  ∃ w, LW dp w ∧ Framed T fs0 w.fs ∧ r = (step w s).1

theorem FrSem.of_ans {α : Type} (dp : Path) (T : List Path) (fs0 : FS) {G : Sys → Prop} {Q : α → Prop}
    (hG : ∀ s, G s → SysFr T fs0 s) : ∀ (p : Prog α), p.Sem G (AnsFr dp T fs0) Q → FrSem dp T fs0 Q p
  | .ret _, h => h
  | .call s k, h => ⟨hG s h.1, fun w hw hf => FrSem.of_ans dp T fs0 hG (k (step w s).1) (h.2 _ ⟨w, hw, hf, rfl⟩)⟩

theorem FrSem.of_calls {α : Type} (dp : Path) (T : List Path) (fs0 : FS) {G : Sys → Prop} (hG : ∀ s, G s → SysFr T fs0 s)
    (p : Prog α) (h : p.Calls G) : FrSem dp T fs0 (fun _ => True) p :=
  FrSem.of_ans dp T fs0 hG p (h.sem fun _ h => h)

theorem fr_info (dp : Path) (T : List Path) (fs0 : FS) (s : Sys) (hs : SysFr T fs0 s) :
    FrSem dp T fs0 (fun _ => True) (sys s) := ⟨hs, fun _ _ _ => trivial⟩

/-- without symbolic links, "no such file" from `stat` means the lexical path has no name -/
theorem stat_enoent_absent (dp : Path) (w : World) (hw : LW dp w) (d : Str) (fl : Bool) (hne : d ≠ [])
    (hdd : dotdot ∉ pathComps d) (he : isENOENT (statRes w d fl) = true) : w.fs.lookup (pathComps d) = none := by
  have hlex := fun q => resolve_lexical w hw.inv.root hw.inv.nosym d fl q hdd
  revert he
  -- the four ways `statRes` ends: resolution fails, no name, a name without a record, a record
  fun_cases statRes w d fl
  case case1 e hres =>
    intro he
    have : e = .ENOENT := by cases e <;> simp [isENOENT] at he ⊢
    simpa using resolve_enoent_absent hw.inv.root hw.inv.nosym hw.inv.tree hne hdd (this ▸ hres) []
  case case2 q hres hl => exact fun _ => hlex q hres ▸ hl
  case case3 q hres i hl hi =>
    have := hw.inv.tree.has_inode _ i hl
    rw [hi] at this; cases this
  case case4 => simp [isENOENT]

theorem stat_enoent_marg (dp : Path) (T : List Path) (fs0 : FS) (w : World) (hw : LW dp w) (hf : Framed T fs0 w.fs)
    (d : Str) (fl : Bool) (hd : CleanAbs d) (he : isENOENT (statRes w d fl) = true) : MArg T fs0 d := by
  have hab := stat_enoent_absent dp w hw d fl hd.ne_nil hd.no_dotdot he
  refine ⟨?_, hd.no_dotdot⟩
  by_cases hc : Cov T (pathComps d)
  · exact Or.inl hc
  · right
    cases h0 : fs0.lookup (pathComps d) with
    | none => rfl
    | some i =>
      have := hf.names_keep _ i h0 hc
      rw [hab] at this; cases this

end GA
