import GA.K.Prog
/-
  What the primitives of `FS` do to `lookup`, `inode` and `next` (`inode_setInode`, `inode_modInode`, `lookup_create`,
  `inode_create_new`, `lookup_filterNames`, `removeBelow_cases`, …), and the three ways they change a file system.  As
  far as names and kinds go: `SameKinds` (inode contents change, kinds stay: `setInode`, `modInode`, `touchParent`),
  `Extends` (one new name: `create`, `addName`) and filtering the names (`removeSubtree`, `removeBelow`, each a filter
  followed by a `SameKinds` step); an invariant that speaks of names and kinds only is proved for these three.  A
  relation that speaks of the inode records (`Confined` in `Confine`, `Framed` in `Frame`) is proved for `setInode`,
  for filtering and for `AddsName`, which is `Extends` before the parent is touched, with the records.
-/
namespace GA

theorem lookup_inode_irrel (fs : FS) (f : Ino → Option Inode) (n : Ino) (p : Path) :
    ({ fs with inode := f, next := n } : FS).lookup p = fs.lookup p := rfl

theorem lookup_setInode (fs : FS) (i : Ino) (n : Inode) (p : Path) :
    (fs.setInode i n).lookup p = fs.lookup p := rfl

theorem inode_setInode (fs : FS) (i j : Ino) (n : Inode) :
    (fs.setInode i n).inode j = if j = i then some n else fs.inode j := rfl

theorem inode_setInode_ne (fs : FS) (i j : Ino) (n : Inode) (h : j ≠ i) : (fs.setInode i n).inode j = fs.inode j :=
  if_neg h

theorem next_setInode (fs : FS) (i : Ino) (n : Inode) : (fs.setInode i n).next = fs.next := rfl

theorem lookup_modInode (fs : FS) (i : Ino) (f : Inode → Inode) (p : Path) :
    (fs.modInode i f).lookup p = fs.lookup p := by
  unfold FS.modInode; split <;> rfl

theorem modInode_eq (fs : FS) (i : Ino) (f : Inode → Inode) :
    fs.modInode i f = fs ∨ ∃ n, fs.inode i = some n ∧ fs.modInode i f = fs.setInode i (f n) := by
  unfold FS.modInode
  cases h : fs.inode i with
  | none => exact .inl rfl
  | some n => exact .inr ⟨n, rfl, rfl⟩

theorem next_modInode (fs : FS) (i : Ino) (f : Inode → Inode) : (fs.modInode i f).next = fs.next := by
  unfold FS.modInode; split <;> rfl

theorem names_modInode (fs : FS) (i : Ino) (f : Inode → Inode) : (fs.modInode i f).names = fs.names := by
  unfold FS.modInode; split <;> rfl

theorem inode_modInode (fs : FS) (i j : Ino) (f : Inode → Inode) :
    (fs.modInode i f).inode j = if j = i then (fs.inode i).map f else fs.inode j := by
  unfold FS.modInode
  cases h : fs.inode i with
  | none => by_cases e : j = i <;> simp [e, h]
  | some n => rfl

theorem inode_modInode_ne (fs : FS) (i j : Ino) (f : Inode → Inode) (h : j ≠ i) :
    (fs.modInode i f).inode j = fs.inode j := by
  rw [inode_modInode, if_neg h]

theorem inode_modInode_self (fs : FS) (i : Ino) (f : Inode → Inode) (n : Inode) (h : fs.inode i = some n) :
    (fs.modInode i f).inode i = some (f n) := by
  rw [inode_modInode, if_pos rfl, h]; rfl

theorem removeBelow_cases {P : FS → Prop} (fs : FS) (q : Path) (h0 : P fs)
    (h1 : ∀ i, fs.lookup q = some i →
      P (({ fs with names := fs.names.filter (fun e => !(under q e.1) || e.1 == q) } : FS).modInode i
        (fun n => { n with mtime := none }))) : P (fs.removeBelow q) := by
  unfold FS.removeBelow
  split
  · exact h1 _ ‹_›
  · exact h0

theorem next_removeBelow (fs : FS) (q : Path) : (fs.removeBelow q).next = fs.next :=
  removeBelow_cases (P := fun fs' => fs'.next = fs.next) fs q rfl fun _ _ => next_modInode ..


theorem lookup_append_new (fs : FS) (q : Path) (i : Ino) (hn : fs.lookup q = none) (p : Path) :
    ({ fs with names := fs.names ++ [(q, i)] } : FS).lookup p =
      if p = q then some i else fs.lookup p := by
  unfold FS.lookup at *
  by_cases hp : p = q
  · subst hp
    simp only [Option.map_eq_none_iff] at hn
    simp [List.find?_append, hn]
  · have : (q == p) = false := by simpa using fun e => hp e.symm
    simp [List.find?_append, hp, List.find?, this]

theorem lookup_filter (names : List (Path × Ino)) (keep : Path → Bool) (p : Path) :
    ((names.filter (fun e => keep e.1)).find? (fun e => e.1 == p)).map (·.2) =
      if keep p then (names.find? (fun e => e.1 == p)).map (·.2) else none := by
  have : ∀ e : Path × Ino, decide (keep e.1 = true ∧ (e.1 == p) = true) = (keep p && e.1 == p) := fun e => by
    cases h : e.1 == p
    · simp
    · rw [eq_of_beq h]; simp
  rw [List.find?_filter]
  simp only [this]
  cases keep p <;> simp

theorem lookup_filterNames (fs : FS) (keep : Path → Bool) (p : Path) :
    ({ fs with names := fs.names.filter (fun e => keep e.1) } : FS).lookup p =
      if keep p then fs.lookup p else none := lookup_filter fs.names keep p

theorem lookup_filterNames_some {fs : FS} {keep : Path → Bool} {p : Path} {j : Ino}
    (h : ({ fs with names := fs.names.filter (fun e => keep e.1) } : FS).lookup p = some j) :
    fs.lookup p = some j ∧ keep p = true := by
  rw [lookup_filterNames] at h
  split at h
  · exact ⟨h, ‹_›⟩
  · cases h

theorem lookup_new_or_old {fs fs' : FS} {q : Path} {i : Ino}
    (hl : ∀ p, fs'.lookup p = if p = q then some i else fs.lookup p) {p : Path} {j : Ino} (hp : fs'.lookup p = some j) :
    p = q ∧ j = i ∨ fs.lookup p = some j := by
  rw [hl] at hp
  split at hp
  · exact .inl ⟨‹_›, (Option.some.inj hp).symm⟩
  · exact .inr hp

def NextFresh (fs : FS) : Prop := ∀ p i, fs.lookup p = some i → i < fs.next

theorem get_def (fs : FS) (p : Path) : fs.get p = (fs.lookup p).bind fs.inode := rfl

theorem isDir_iff (fs : FS) (p : Path) : fs.isDir p = true ↔ ∃ n, fs.get p = some n ∧ n.kind = .dir := by
  unfold FS.isDir
  cases fs.get p with
  | none => simp
  | some n => simp

def FS.kindAt (fs : FS) (i : Ino) : Option Kind := (fs.inode i).map (·.kind)

theorem kindAt_eq_some {fs : FS} {i : Ino} {k : Kind} :
    fs.kindAt i = some k ↔ ∃ n, fs.inode i = some n ∧ n.kind = k := by
  simp [FS.kindAt]

theorem kindAt_of_inode {fs : FS} {i : Ino} {n : Inode} (h : fs.inode i = some n) : fs.kindAt i = some n.kind :=
  kindAt_eq_some.mpr ⟨n, h, rfl⟩

theorem kindAt_isSome (fs : FS) (i : Ino) : (fs.kindAt i).isSome = (fs.inode i).isSome := by
  simp [FS.kindAt]

theorem isDir_iff_kindAt (fs : FS) (p : Path) :
    fs.isDir p = true ↔ ∃ i, fs.lookup p = some i ∧ fs.kindAt i = some .dir := by
  rw [isDir_iff, get_def]
  cases fs.lookup p with
  | none => simp
  | some i => simp [kindAt_eq_some]

structure SameKinds (fs fs' : FS) : Prop where
  lookup : ∀ p, fs'.lookup p = fs.lookup p
  next : fs'.next = fs.next
  kind : ∀ i, fs'.kindAt i = fs.kindAt i

theorem SameKinds.refl (fs : FS) : SameKinds fs fs := ⟨fun _ => rfl, rfl, fun _ => rfl⟩

theorem SameKinds.isDir_eq {fs fs' : FS} (h : SameKinds fs fs') (p : Path) : fs'.isDir p = fs.isDir p := by
  rw [Bool.eq_iff_iff, isDir_iff_kindAt, isDir_iff_kindAt]
  simp only [h.lookup, h.kind]

theorem SameKinds.setInode (fs : FS) (i : Ino) {n : Inode} (m : Inode) (hi : fs.inode i = some n)
    (hk : m.kind = n.kind) : SameKinds fs (fs.setInode i m) := by
  refine ⟨fun _ => rfl, rfl, fun j => ?_⟩
  by_cases e : j = i
  · rw [e, kindAt_of_inode hi, ← hk]; exact kindAt_of_inode (by simp [FS.setInode])
  · simp [FS.kindAt, inode_setInode_ne fs i j m e]

theorem SameKinds.modInode (fs : FS) (i : Ino) (f : Inode → Inode) (hf : ∀ n, (f n).kind = n.kind) :
    SameKinds fs (fs.modInode i f) := by
  rcases modInode_eq fs i f with e | ⟨n, hn, e⟩
  · rw [e]; exact .refl fs
  · rw [e]; exact .setInode fs i _ hn (hf n)

theorem SameKinds.touchParent (fs : FS) (q : Path) : SameKinds fs (fs.touchParent q) := by
  unfold FS.touchParent
  split
  · exact .modInode fs _ _ (fun _ => rfl)
  · exact .refl fs

structure Extends (fs fs' : FS) (q : Path) (i : Ino) : Prop where
  new : fs.lookup q = none
  lookup : ∀ p, fs'.lookup p = if p = q then some i else fs.lookup p
  kind : ∀ p j, fs.lookup p = some j → fs'.kindAt j = fs.kindAt j
  next : fs.next ≤ fs'.next

theorem Extends.then {fs fs1 fs' : FS} {q : Path} {i : Ino} (h : Extends fs fs1 q i) (hs : SameKinds fs1 fs') :
    Extends fs fs' q i :=
  ⟨h.new, fun p => (hs.lookup p).trans (h.lookup p), fun p j hp => (hs.kind j).trans (h.kind p j hp),
    hs.next ▸ h.next⟩

theorem Extends.lookup_old {fs fs' : FS} {q : Path} {i : Ino} (h : Extends fs fs' q i) {p : Path} {j : Ino}
    (hp : fs.lookup p = some j) : fs'.lookup p = some j := by
  rw [h.lookup, if_neg (fun e => by rw [e, h.new] at hp; cases hp)]; exact hp

theorem Extends.isDir_mono {fs fs' : FS} {q : Path} {i : Ino} (h : Extends fs fs' q i) {p : Path}
    (hp : fs.isDir p = true) : fs'.isDir p = true := by
  rw [isDir_iff_kindAt] at hp ⊢
  obtain ⟨j, hl, hk⟩ := hp
  exact ⟨j, h.lookup_old hl, (h.kind p j hl).trans hk⟩

theorem extends_addName (fs : FS) (q : Path) (i : Ino) (hn : fs.lookup q = none) : Extends fs (fs.addName q i) q i :=
  Extends.then ⟨hn, lookup_append_new fs q i hn, fun _ _ _ => rfl, Nat.le_refl _⟩ (.touchParent _ q)

theorem extends_create (fs : FS) (q : Path) (n : Inode) (hn : fs.lookup q = none) (hf : NextFresh fs) :
    Extends fs (fs.create q n) q fs.next := by
  unfold FS.create
  refine Extends.then ⟨hn, ?_, ?_, Nat.le_succ _⟩ (.touchParent _ q)
  · exact lookup_append_new fs q fs.next hn
  · intro p j hp
    simp [FS.kindAt, Nat.ne_of_lt (hf p j hp)]

/-- the first half of `create` (the second touches the parent) -/
def FS.appendNew (fs : FS) (q : Path) (n : Inode) : FS :=
  { names := fs.names ++ [(q, fs.next)], inode := fun j => if j = fs.next then some n else fs.inode j, next := fs.next + 1 }

theorem create_eq (fs : FS) (q : Path) (n : Inode) : fs.create q n = (fs.appendNew q n).touchParent q := rfl

/-- `Extends` with the inode records: one name more, and no record but that of `i` differs -/
structure AddsName (fs fs' : FS) (q : Path) (i : Ino) : Prop where
  new : fs.lookup q = none
  lookup : ∀ p, fs'.lookup p = if p = q then some i else fs.lookup p
  inode : ∀ j, j ≠ i → fs'.inode j = fs.inode j
  next : fs.next ≤ fs'.next

theorem AddsName.lookup_ne {fs fs' : FS} {q : Path} {i : Ino} (h : AddsName fs fs' q i) {p : Path} (hp : p ≠ q) :
    fs'.lookup p = fs.lookup p := by rw [h.lookup, if_neg hp]

theorem addsName_append (fs : FS) (q : Path) (i : Ino) (hn : fs.lookup q = none) :
    AddsName fs { fs with names := fs.names ++ [(q, i)] } q i :=
  ⟨hn, lookup_append_new fs q i hn, fun _ _ => rfl, Nat.le_refl _⟩

theorem addsName_appendNew (fs : FS) (q : Path) (n : Inode) (hn : fs.lookup q = none) :
    AddsName fs (fs.appendNew q n) q fs.next :=
  ⟨hn, lookup_append_new fs q fs.next hn, fun _ hj => if_neg hj, Nat.le_succ _⟩

theorem lookup_create (fs : FS) (q : Path) (n : Inode) (hn : fs.lookup q = none) (p : Path) :
    (fs.create q n).lookup p = if p = q then some fs.next else fs.lookup p :=
  ((SameKinds.touchParent _ q).lookup p).trans (lookup_append_new fs q fs.next hn p)

theorem kindAt_create_new (fs : FS) (q : Path) (n : Inode) : (fs.create q n).kindAt fs.next = some n.kind :=
  ((SameKinds.touchParent _ q).kind _).trans (by simp [FS.kindAt])

theorem dropLast_ne_self (q : Path) (h : q ≠ []) : q.dropLast ≠ q := fun e => by
  have := congrArg List.length e
  have := List.length_pos_iff.mpr h
  rw [List.length_dropLast] at *
  omega

theorem inode_create_new (fs : FS) (q : Path) (n : Inode) (hn : fs.lookup q = none) (hf : NextFresh fs) (hq : q ≠ []) :
    (fs.create q n).inode fs.next = some n := by
  rw [create_eq]
  have hi1 : (fs.appendNew q n).inode fs.next = some n := if_pos rfl
  unfold FS.touchParent
  cases hp : (fs.appendNew q n).lookup q.dropLast with
  | none => exact hi1
  | some j =>
    -- the parent's time is touched, and the parent is an older inode
    rw [(addsName_appendNew fs q n hn).lookup_ne (dropLast_ne_self q hq)] at hp
    exact (inode_modInode_ne _ _ _ _ (Nat.ne_of_gt (hf _ j hp))).trans hi1

theorem next_create (fs : FS) (q : Path) (n : Inode) : (fs.create q n).next = fs.next + 1 :=
  (SameKinds.touchParent _ q).next

theorem isDir_filterNames (fs : FS) (keep : Path → Bool) (p : Path) :
    ({ fs with names := fs.names.filter (fun e => keep e.1) } : FS).isDir p = (keep p && fs.isDir p) := by
  simp only [FS.isDir, get_def, lookup_filterNames]
  cases keep p <;> rfl

end GA
