import GA.Proofs.LexCall
import GA.Proofs.NoBlock
/-
  The calls that give an object another name or take names away, on paths lexically beneath the destination in a
  symlink-free world: `link` (`link_effect`, with `Shared`), and `os.RemoveAll` (`removeAll_post`: on success
  nothing is left at or beneath the path; whatever it answers, no name has appeared).  And the two opens of the model
  that can fail to return — `os.RemoveAll`'s of the parent, `createTarFile`'s for writing — do return where the
  loops make them (`removeAll_nb_of_lstat`, `createWrite_nb`).
-/
namespace GA

def Shared (dp : Path) (a b : Str) (w : World) : Prop :=
  LW dp w ∧ ∃ i, w.fs.lookup (pathComps a) = some i ∧ w.fs.lookup (pathComps b) = some i

theorem link_effect (dp : Path) (old new : Str) (ho : LexArg dp old) (hn : LexArg dp new) :
    Triple (fun w => LW dp w) (sys (.link old new))
      (fun r w' => isErr r = false → Shared dp new old w') := by
  apply Triple.sys
  intro w hw
  have hgood := step_good dp w (.link old new) hw (good_lex (s := .link old new) ⟨ho, hn⟩)
  revert hgood
  -- every refusal answers with an error; what is left is the call that went through
  cases hro : resolve w old false with
  | err e => simp only [step, hro]; exact fun _ h => by cases h
  | ok qo =>
    cases hrn : resolveC w new with
    | err e => simp only [step, hro, hrn]; exact fun _ h => by cases h
    | ok qn =>
      obtain rfl := resolve_lexical w hw.inv.root hw.inv.nosym old false qo ho.2 hro
      obtain rfl := resolveC_lexical w hw.inv.root hw.inv.nosym new qn hn.2 hrn
      cases hl : w.fs.lookup (pathComps old) with
      | none => simp only [step, hro, hrn, hl]; exact fun _ h => by cases h
      | some i =>
        simp only [step, hro, hrn, hl]
        split
        · exact fun _ h => by cases h
        split
        · exact fun _ h => by cases h
        rename_i hex
        split
        · exact fun _ h => by cases h
        intro hgood _
        have hnone := Option.not_isSome_iff_eq_none.mp hex
        have hne : pathComps old ≠ pathComps new := fun e => by rw [e, hnone] at hl; cases hl
        refine ⟨hgood.2, i, ?_, ?_⟩
        · simp only; rw [(extends_addName _ _ _ hnone).lookup, if_pos rfl]
        · simp only; rw [(extends_addName _ _ _ hnone).lookup, if_neg hne]; exact hl

/-- without symbolic links and "..", a walk that ends in "no such file" met a missing name on the way -/
theorem walk_enoent (fs : FS) (root : Path) (hns : NoSym fs) :
    ∀ (fuel links : Nat) (cur : Path) (cs : List Str) (fl : Bool),
      dotdot ∉ cs → walk fs root fuel links cur cs fl = .err .ENOENT →
      ∃ pre, pre <+: cs ∧ fs.get (cur ++ pre) = none := by
  intro fuel links cur cs fl hdd h
  have hd := walk_descent fs root hns fuel links cur cs fl hdd
  rw [h] at hd
  cases hd with
  | enoent hp hg => exact ⟨_, hp, hg⟩

theorem lookup_removeSubtree (fs : FS) (q p : Path) :
    (fs.removeSubtree q).lookup p = if under q p = true then none else fs.lookup p := by
  refine ((SameKinds.touchParent _ q).lookup p).trans ?_
  rw [lookup_filterNames fs (fun x => !(under q x))]
  cases under q p <;> rfl

theorem removeAllNotDir_err (w : World) (p : Str) : isErr (removeAllNotDir w p) = true := by
  fun_cases removeAllNotDir w p <;> rfl

/-- `os.RemoveAll` of a path lexically beneath the destination, in a symlink-free tree: if it reports
    success nothing is left at or beneath the path; whatever it reports, no name has been added -/
theorem removeAll_post (dp : Path) (w : World) (hw : LW dp w) (p : Str) (hp : LexArg dp p) (hs : pathComps p ≠ dp) :
    (isErr (step w (.removeAll p)).1 = false →
      ∀ q, under (pathComps p) q = true → (step w (.removeAll p)).2.fs.lookup q = none) ∧
    (∀ q i, (step w (.removeAll p)).2.fs.lookup q = some i → w.fs.lookup q = some i) := by
  have htree := hw.inv.tree
  have hne : pathComps p ≠ [] := fun e => hs (e.trans (List.prefix_nil.mp (e ▸ hp.1)).symm)
  have hp0 : p ≠ [] := fun e => hne (by rw [e, pathComps_nil])
  simp only [step, if_neg hp0]
  cases hr : resolve w p false with
  | err e =>
    cases e with
    | ENOENT =>
      -- a name on the way is missing, hence everything at and beneath the path
      refine ⟨fun _ q hq => ?_, fun _ _ h => h⟩
      obtain ⟨ext, rfl⟩ := List.isPrefixOf_iff_prefix.mp hq
      exact resolve_enoent_absent hw.inv.root hw.inv.nosym htree hp0 hp.2 hr ext
    | ENOTDIR => exact ⟨fun h => absurd ((removeAllNotDir_err w p).symm.trans h) (by decide), fun _ _ h => h⟩
    | _ => exact ⟨fun h => (by cases h), fun _ _ h => h⟩
  | ok q0 =>
    obtain rfl := resolve_lexical w hw.inv.root hw.inv.nosym p false q0 hp.2 hr
    dsimp only
    split
    · rename_i hgn
      refine ⟨fun _ q hq => ?_, fun _ _ h => h⟩
      obtain ⟨ext, rfl⟩ := List.isPrefixOf_iff_prefix.mp hq
      exact htree.absent_below ext _ (get_none_lookup_none htree (Option.isNone_iff_eq_none.mp hgn))
    · rw [if_neg (hw.inv.root ▸ hne)]
      refine ⟨fun _ q hq => by simp only; rw [lookup_removeSubtree, if_pos hq], fun q i hl => ?_⟩
      simp only [lookup_removeSubtree] at hl
      split at hl
      · cases hl
      · exact hl

/-- `os.RemoveAll` of a path `lstat` has just found does not reach the open of the parent -/
theorem removeAll_nb_of_lstat (dp : Path) (w : World) (hw : LW dp w) (p : Str) (hp : LexArg dp p) (s : StatInfo)
    (hl : (step w (.lstat p)).1 = .stat s) : isBlockedR (step w (.removeAll p)).1 = false := by
  simp only [step] at hl ⊢
  unfold statRes at hl
  by_cases hp0 : p = []
  · simp [hp0, isBlockedR]
  · simp only [hp0, if_false]
    cases hr : resolve w p false with
    | err e => rw [hr] at hl; cases hl
    | ok q =>
      simp only
      split
      · rfl
      · split <;> rfl

/-- the open-for-write of a path that is absent, or cannot be resolved, does not block -/
theorem createWrite_nb (dp : Path) (w : World) (hw : LW dp w) (p : Str) (hp : LexArg dp p) (mode : Nat) (d : List UInt8)
    (h : w.fs.lookup (pathComps p) = none ∨ ∃ e, resolve w p true = .err e) :
    isBlockedR (step w (.createWrite p mode d)).1 = false := by
  simp only [step]
  cases hr : resolve w p true with
  | err e => rfl
  | ok q =>
    have hq := resolve_lexical w hw.inv.root hw.inv.nosym p true q hp.2 hr
    subst hq
    rcases h with h | ⟨e, he⟩
    · simp only [h]
      split <;> rfl
    · rw [hr] at he; cases he

end GA
