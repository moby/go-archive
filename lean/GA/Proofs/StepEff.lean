import GA.Proofs.FSChange
import GA.Proofs.DirBase
/-
  What a system call can do to the world.  `StepEff w s w'`: `w'` is `w`, or `w` after exactly one
  primitive of `FS` applied at the path a path argument of `s` resolved to, with the checks the kernel
  made before it (`step_eff`; `os.MkdirAll` apart, which is a series of `mkdir`s: `mkdirAllK_inv`).  A statement
  of the form "every call keeps invariant I" is then one case per primitive.  `Resolves` is what `resolve` and
  `resolveC` have in common; `Sys.Creates` / `Sys.Alters` say which argument of which call names the path.
  `rstep_pure`: a call of the read-only sub-language does nothing.
-/
namespace GA

/-- what `resolve` and `resolveC` have in common: the walk from the thread's root ends at `q`, with either
    treatment of a final symbolic link -/
def Resolves (w : World) (p : Str) (q : Path) : Prop :=
  ∃ fl, walk w.fs w.root walkFuel 40 w.root (pathComps p) fl = .ok q

theorem resolveC_resolves {w : World} {p : Str} {q : Path} (h : resolveC w p = .ok q) : Resolves w p q := by
  unfold resolveC at h
  split at h
  · cases h
  · exact ⟨_, h⟩

/-- a successful `resolve` is a successful walk: the trailing-slash check only refuses -/
theorem resolve_ok_walk {w : World} {p : Str} {fl : Bool} {q : Path} :
    resolve w p fl = .ok q → walk w.fs w.root walkFuel 40 w.root (pathComps p) (fl || mustDir p) = .ok q := by
  fun_cases resolve w p fl
  -- the empty string, a failed walk, a trailing slash on what is no directory
  case case1 | case2 | case4 => nofun
  all_goals exact fun h => WRes.ok.inj h ▸ ‹_›

/-- "no such file" is never produced by the trailing-slash check -/
theorem resolve_enoent_walk {w : World} {p : Str} {fl : Bool} (hne : p ≠ []) :
    resolve w p fl = .err .ENOENT → walk w.fs w.root walkFuel 40 w.root (pathComps p) (fl || mustDir p) = .err .ENOENT := by
  fun_cases resolve w p fl
  case case1 => exact absurd ‹_› hne
  case case2 => exact fun h => WRes.err.inj h ▸ ‹_›
  all_goals nofun

theorem resolve_resolves {w : World} {p : Str} {fl : Bool} {q : Path} (h : resolve w p fl = .ok q) :
    Resolves w p q := ⟨_, resolve_ok_walk h⟩

inductive Sys.Creates : Sys → Str → Kind → Prop
  | mkdir (p perm) : Creates (.mkdir p perm) p .dir
  | createWrite (p perm d) : Creates (.createWrite p perm d) p .reg
  | symlink (t p) : Creates (.symlink t p) p .sym
  | mknod (p k perm rdev) : Creates (.mknod p k perm rdev) p k
  | mkdtemp (d pfx) : Creates (.mkdtemp d pfx) (join d (pfx ++ b!"0000000000")) .dir

inductive Sys.Alters : Sys → Str → Prop
  | createWrite (p perm d) : Alters (.createWrite p perm d) p
  | chown (p u g fl) : Alters (.chown p u g fl) p
  | chmod (p perm) : Alters (.chmod p perm) p
  | setxattr (p k v fl) : Alters (.setxattr p k v fl) p
  | utimes (p t fl) : Alters (.utimes p t fl) p

/-- Of a created or changed inode only the kind is kept, on purpose: the invariants need no more.  Exact
    postconditions of single calls (LexCall.lean, LexNames.lean) look at `step` again. -/
inductive StepEff (w : World) : Sys → World → Prop
  | same (s) : StepEff w s w
  | umask (m) : StepEff w (.setUmask m) { w with umask := m &&& 0o777 }
  | create {s p k q n} : s.Creates p k → Resolves w p q → w.fs.lookup q = none → w.fs.isDir q.dropLast = true →
      n.kind = k → StepEff w s { w with fs := w.fs.create q n }
  | write {s p q i n m} : s.Alters p → Resolves w p q → w.fs.lookup q = some i → w.fs.inode i = some n →
      m.kind = n.kind → StepEff w s { w with fs := w.fs.setInode i m }
  | link {old new qo qn i} : Resolves w old qo → Resolves w new qn → w.fs.lookup qo = some i →
      w.fs.isDir qo = false → w.fs.lookup qn = none → w.fs.isDir qn.dropLast = true →
      StepEff w (.link old new) { w with fs := w.fs.addName qn i }
  | remove {p q} : Resolves w p q → q ≠ w.root → StepEff w (.removeAll p) { w with fs := w.fs.removeSubtree q }
  | clear {p} : Resolves w p w.root → StepEff w (.removeAll p) { w with fs := w.fs.removeBelow w.root }
  | chroot {p q i} : Resolves w p q → w.fs.lookup q = some i →
      StepEff w (.chroot p) { w with root := q, fs := w.fs.modInode i (fun n => { n with mtime := none }) }

theorem chownInode_keeps (n : Inode) (u g : Nat) :
    (chownInode n u g).kind = n.kind ∧ (chownInode n u g).data = n.data ∧ (chownInode n u g).uid = u ∧
    (chownInode n u g).gid = g := by
  unfold chownInode; split <;> exact ⟨rfl, rfl, rfl, rfl⟩

theorem StepEff.update {w : World} {s : Sys} {p : Str} {q : Path} {i : Ino} (f : Inode → Inode) (ha : s.Alters p)
    (hq : Resolves w p q) (hl : w.fs.lookup q = some i) (hf : ∀ n, (f n).kind = n.kind) :
    StepEff w s { w with fs := w.fs.modInode i f } := by
  rcases modInode_eq w.fs i f with e | ⟨n, hn, e⟩
  · rw [e]; exact .same s
  · rw [e]; exact .write ha hq hl hn (hf n)

/-- the shapes of `step`: a failed resolution and a failed check leave the world as it is -/
theorem StepEff.onRes {w : World} {s : Sys} {res : WRes} {k : Path → Res × World}
    (h : ∀ q, res = .ok q → StepEff w s (k q).2) :
    StepEff w s (match res with | .err e => (Res.err e, w) | .ok q => k q).2 := by
  cases res with
  | err e => exact .same _
  | ok q => exact h q rfl

theorem StepEff.guard {w : World} {s : Sys} {c : Prop} [Decidable c] {r : Res} {x : Res × World}
    (h : ¬c → StepEff w s x.2) : StepEff w s (if c then (r, w) else x).2 := by
  split
  · exact .same _
  · exact h ‹_›

theorem StepEff.onLookup {w : World} {s : Sys} {o : Option Ino} {r : Res} {k : Ino → Res × World}
    (h : ∀ i, o = some i → StepEff w s (k i).2) :
    StepEff w s (match o with | none => (r, w) | some i => k i).2 := by
  cases o with
  | none => exact .same _
  | some i => exact h i rfl

theorem mkdirOne_eff (w : World) (p : Str) (perm : Nat) : StepEff w (.mkdir p perm) (mkdirOne w p perm).2 := by
  unfold mkdirOne
  refine .onRes fun q hq => .guard fun hex => .guard fun hpd => ?_
  exact .create (.mkdir p perm) (resolveC_resolves hq) (Option.not_isSome_iff_eq_none.mp hex) (by simpa using hpd) rfl

theorem rstep_pure (w : World) (s : RSys) : (step w s.toSys).2 = w := by
  cases s <;> simp only [RSys.toSys, step] <;> (repeat' split) <;> rfl

theorem step_eff (w : World) (s : Sys) : StepEff w s (step w s).2 ∨ ∃ p perm, s = .mkdirAll p perm := by
  by_cases hm : ∃ p perm, s = .mkdirAll p perm
  · exact .inr hm
  refine .inl ?_
  cases s with
  | mkdirAll p perm => exact absurd ⟨p, perm, rfl⟩ hm
  | lstat | stat => exact .same _
  | readFile | getxattr | readlink | listTree =>
    simp only [step]
    repeat' split
    all_goals exact .same _
  | setUmask m => exact .umask m
  | mkdir p perm => exact mkdirOne_eff w p perm
  | symlink target p =>
    simp only [step]
    refine .onRes fun q hq => .guard fun hex => .guard fun hpd => .guard fun _ => ?_
    exact .create (.symlink target p) (resolveC_resolves hq) (Option.not_isSome_iff_eq_none.mp hex) (by simpa using hpd) rfl
  | mknod p k perm rdev =>
    simp only [step]
    refine .onRes fun q hq => .guard fun hex => .guard fun hpd => ?_
    exact .create (.mknod p k perm rdev) (resolveC_resolves hq) (Option.not_isSome_iff_eq_none.mp hex) (by simpa using hpd) rfl
  | mkdtemp d pfx =>
    simp only [step]
    refine .onRes fun q hq => .guard fun hex => .guard fun hpd => ?_
    exact .create (.mkdtemp d pfx) (resolve_resolves hq) (Option.not_isSome_iff_eq_none.mp hex) (by simpa using hpd) rfl
  | createWrite p perm data =>
    simp only [step]
    refine .onRes fun q hq => ?_
    cases hl : w.fs.lookup q with
    | none =>
      refine .guard fun hpd => ?_
      exact .create (.createWrite p perm data) (resolve_resolves hq) hl (by simpa using hpd) rfl
    | some i =>
      simp only
      cases hi : w.fs.inode i with
      | none => exact .same _
      | some n =>
        refine .guard fun _ => .guard fun _ => .guard fun _ => ?_
        exact .write (.createWrite p perm data) (resolve_resolves hq) hl hi rfl
  | link old new =>
    simp only [step]
    cases hqo : resolve w old false with
    | err e => exact .same _
    | ok qo =>
      cases hqn : resolveC w new with
      | err e => exact .same _
      | ok qn =>
        refine .onLookup fun i hl => .guard fun hnd => .guard fun hex => .guard fun hpd => ?_
        exact .link (resolve_resolves hqo) (resolveC_resolves hqn) hl (by simpa using hnd) (Option.not_isSome_iff_eq_none.mp hex)
          (by simpa using hpd)
  | chown p uid gid follow =>
    simp only [step]
    refine .onRes fun q hq => .onLookup fun i hl => ?_
    exact .update _ (.chown p uid gid follow) (resolve_resolves hq) hl (fun n => (chownInode_keeps n uid gid).1)
  | chmod p perm =>
    simp only [step]
    refine .onRes fun q hq => .onLookup fun i hl => ?_
    exact .update _ (.chmod p perm) (resolve_resolves hq) hl (fun _ => rfl)
  | utimes p mtime follow =>
    simp only [step]
    refine .onRes fun q hq => .onLookup fun i hl => ?_
    cases mtime with
    | none => exact .same _
    | some t => exact .update _ (.utimes p _ follow) (resolve_resolves hq) hl (fun _ => rfl)
  | setxattr p k v follow =>
    simp only [step]
    refine .onRes fun q hq => .onLookup fun i hl => ?_
    cases hi : w.fs.inode i with
    | none => exact .same _
    | some n =>
      refine .guard fun _ => ?_
      exact .write (.setxattr p k v follow) (resolve_resolves hq) hl hi rfl
  | removeAll p =>
    simp only [step]
    refine .guard fun _ => ?_
    cases hq : resolve w p false with
    | err e => cases e <;> exact .same _
    | ok q =>
      refine .guard fun _ => ?_
      split
      · rename_i heq
        subst heq
        exact .clear (resolve_resolves hq)
      · exact .remove (resolve_resolves hq) ‹_›
  | chroot p =>
    simp only [step]
    refine .onRes fun q hq => .onLookup fun i hl => .guard fun _ => ?_
    exact .chroot (resolve_resolves hq) hl

/-! ### `os.MkdirAll p` is a sequence of `mkdir`s of `p` and of strings that name ancestors of `p` -/

theorem mkdirAllK_inv (P : World → Prop) (p : Str) (perm : Nat)
    (hstep : ∀ w p', pathComps p' <+: pathComps p → P w → P (mkdirOne w p' perm).2) :
    ∀ (fuel : Nat) (w : World) (p' : Str), pathComps p' <+: pathComps p → P w → P (mkdirAllK fuel w p' perm).2
  | 0, _, _, _, h => h
  | n+1, w, p', hp, h => by
    -- whatever is answered, the world returned is `w` (the path exists), the one after the parent's turn (`pr.2`),
    -- or that after the `mkdir` of `p'` itself (`m.2`)
    rw [mkdirAllK]
    split
    · split <;> exact h
    · extract_lets parent pr m
      have hpar : P pr.2 := by
        unfold pr
        split
        · exact mkdirAllK_inv P p perm hstep n w parent ((parent_comps_prefix p').trans hp) h
        · exact h
      have hm : P m.2 := hstep pr.2 p' hp hpar
      split
      · exact hpar
      · split
        · split
          · split <;> exact hm
          · exact hm
        · exact hm

end GA
