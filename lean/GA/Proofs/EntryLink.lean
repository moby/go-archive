import GA.Proofs.EntryPost
import GA.Proofs.LexNames
/-
  A hard-link entry: on success the entry's path and the link target name the same inode
  (`createTarFile_link_shares`).  Programs that keep every name (`KeepsNames`), among them the metadata phase and the
  deferred directory times.  `Written`: what an iteration of either loop that went on after an ordinary entry has
  done, with what that leaves at the path for each kind of entry — the statements about single iterations of `Unpack`
  and `UnpackLayer` are its cases.
-/
namespace GA

def KeepsNames {α : Type} : Prog α → Prop
  | .ret _ => True
  | .call s k => (∀ w q, (step w s).2.fs.lookup q = w.fs.lookup q) ∧ ∀ r, KeepsNames (k r)

theorem KeepsNames.run {α : Type} : ∀ (p : Prog α) (w : World), KeepsNames p → ∀ q, (p.run w).2.fs.lookup q = w.fs.lookup q
  | .ret _, _, _, _ => rfl
  | .call s k, w, h, q => by
    simp only [Prog.run]
    rw [KeepsNames.run (k (step w s).1) (step w s).2 (h.2 _) q, h.1 w q]

theorem KeepsNames.of_calls {α : Type} {G : Sys → Prop} (hG : ∀ s, G s → ∀ w q, (step w s).2.fs.lookup q = w.fs.lookup q) :
    ∀ (p : Prog α), p.Calls G → KeepsNames p
  | .ret _, _ => trivial
  | .call s k, h => ⟨hG s h.1, fun r => KeepsNames.of_calls hG (k r) (h.2 r trivial)⟩

theorem MetaOn.keeps {path : Str} {s : Sys} (h : MetaOn path s) (w : World) (q : Path) :
    (step w s).2.fs.lookup q = w.fs.lookup q :=
  match h with
  | .lstat => by rw [lstat_world]
  | .chown u g fl => (ModBy.chown u g fl).lookup_kept w q
  | .chmod m => (ModBy.chmod m).lookup_kept w q
  | .setxattr k v fl => (ModBy.setxattr k v fl).lookup_kept w q
  | .utimes t fl => (ModBy.utimes t fl).lookup_kept w q

theorem keeps_applyMeta (path : Str) (e : Entry) (o : Opts) : KeepsNames (applyMetaP path e o) :=
  KeepsNames.of_calls (fun _ h => h.keeps) _ (calls_applyMeta path e o)

theorem keeps_dirTimes (dest : Str) (ds : List Entry) : KeepsNames (dirTimesP dest ds) :=
  KeepsNames.of_calls (fun _ ⟨_, _, h⟩ => h.keeps) _ (calls_dirTimes dest ds)

theorem applyMeta_shared (dp : Path) (a b path : Str) (e : Entry) (o : Opts) (hp : LexArg dp path) :
    Triple (Shared dp a b) (applyMetaP path e o) (fun _ w' => Shared dp a b w') := by
  intro w ⟨hw, i, ha, hb⟩
  have hk := KeepsNames.run _ w (keeps_applyMeta path e o)
  exact ⟨(LexSem.run dp _ _ w (lex_applyMeta dp path e o hp) hw).2.1, i, by rw [hk]; exact ha, by rw [hk]; exact hb⟩

/-- **a hard-link entry shares an inode with its target**: when `createTarFile` reports success for a
    `TypeLink` entry, the entry's path and `Join(extractDir, Linkname)` name the same inode -/
theorem createTarFile_link_shares (dp : Path) (path xd : Str) (e : Entry) (o : Opts) (hp : LexArg dp path)
    (hxd : CleanAbs xd) (hdp : pathComps xd = dp) (hlink : e.typ = .link) :
    Triple (fun w => LW dp w) (createTarFileP path xd e o)
      (fun out w' => out = .ok → Shared dp path (join xd e.linkname) w') := by
  unfold createTarFileP
  simp only [hlink]
  refine Triple.ite (fun _ => Triple.pure _ (fun _ _ h => by cases h)) (fun hw => ?_)
  have hlex : LexArg dp (join xd e.linkname) := within_lexArg hxd hdp _ (by simpa using hw)
  exact Triple.bindErr _ _ (link_effect dp _ path hlex hp)
    (Triple.conseq _ (applyMeta_shared dp path (join xd e.linkname) path e o hp) (fun _ h => h) (fun _ _ h _ => h))
    (fun _ h => by cases h)

/-- `Unpack` and `UnpackLayer`, going on after an ordinary entry `e` for the path `p`, have made room at `p` — whatever
    was there is gone, unless it and `e` are directories — and `createTarFile` then succeeded there, ending in `w'` -/
def Written (dp : Path) (dest : Str) (o : Opts) (e : Entry) (p : Str) (w' : World) : Prop :=
  LexArg dp p ∧ ∃ e' w2, remapE o e = some e' ∧ LW dp w2 ∧ (e.typ ≠ .dir → Absent p w2) ∧
    (createTarFileP p dest e' o).run w2 = (.ok, w')

namespace Written
variable {dp : Path} {dest : Str} {o : Opts} {e : Entry} {p : Str} {w' : World} (h : Written dp dest o e p w')
include h

theorem remap : ∃ e', remapE o e = some e' := let ⟨_, e', _, hrem, _⟩ := h; ⟨e', hrem⟩

theorem reg (hreg : e.typ = .reg) :
    LW dp w' ∧ ∃ e' i n, remapE o e = some e' ∧ w'.fs.lookup (pathComps p) = some i ∧
      (∀ q, w'.fs.lookup q = some i → q = pathComps p) ∧ w'.fs.inode i = some n ∧ RegFinal e' o n := by
  obtain ⟨hp, e', w2, hrem, hw2, hroom, hcre⟩ := h
  obtain ⟨hw', i, n, hpost⟩ := ((createTarFile_reg_made dp p dest e' o hp ((remapE_typ o e e' hrem).trans hreg) w2).run
    ⟨rfl, hw2, hroom (by rw [hreg]; decide)⟩ hcre rfl).1.post hw2
  exact ⟨hw', e', i, n, hrem, hpost⟩

theorem node (hnode : e.typ = .chr ∨ e.typ = .blk ∨ e.typ = .fifo) (huns : o.inUserNS = false) :
    LW dp w' ∧ ∃ e' i n, remapE o e = some e' ∧ w'.fs.lookup (pathComps p) = some i ∧
      (∀ q, w'.fs.lookup q = some i → q = pathComps p) ∧ w'.fs.inode i = some n ∧ NodeFinal e' o n := by
  obtain ⟨hp, e', w2, hrem, hw2, _, hcre⟩ := h
  obtain ⟨hw', i, n, hpost⟩ := ((createTarFile_node_made dp p dest e' o hp (by rw [remapE_typ o e e' hrem]; exact hnode) huns
    w2).run ⟨rfl, hw2⟩ hcre rfl).2.post hw2
  exact ⟨hw', e', i, n, hrem, hpost⟩

theorem dir (hdir : e.typ = .dir) :
    LW dp w' ∧ ∃ e' i n, remapE o e = some e' ∧ w'.fs.lookup (pathComps p) = some i ∧ w'.fs.inode i = some n ∧
      DirFinal e' o n := by
  obtain ⟨hp, e', w2, hrem, hw2, _, hcre⟩ := h
  have := createTarFile_dir_any dp p dest e' o hp ((remapE_typ o e e' hrem).trans hdir) w2 hw2 (by rw [hcre])
  rw [hcre] at this
  obtain ⟨hw', i, n, hpost⟩ := this
  exact ⟨hw', e', i, n, hrem, hpost⟩

theorem link (hd : CleanAbs dest) (hdp : pathComps dest = dp) (hlink : e.typ = .link) :
    LW dp w' ∧ ∃ i, w'.fs.lookup (pathComps p) = some i ∧ w'.fs.lookup (pathComps (join dest e.linkname)) = some i := by
  obtain ⟨hp, e', w2, hrem, hw2, _, hcre⟩ := h
  have := (createTarFile_link_shares dp p dest e' o hp hd hdp ((remapE_typ o e e' hrem).trans hlink)).run hw2 hcre rfl
  rwa [remapE_linkname o e e' hrem] at this

end Written

end GA
