import GA.Proofs.Frame
/-
  One system call and the frame: in a world without symbolic links (thread root "/") a call whose
  mutating path arguments are covered by the archive's names keeps the frame (`step_frame`, by cases on
  `StepEff`; `mkdirAllK_frame`; both in `step_good_frame`).  `SysFr T fs0` says of each call which argument must
  be covered and in which sense: `FArg`, `CArg`, `MArg`.
-/
namespace GA

def FArg (T : List Path) (p : Str) : Prop := Cov T (pathComps p) ∧ dotdot ∉ pathComps p

/-- covered or on the way to a covered path: creation of a missing directory -/
def CArg (T : List Path) (p : Str) : Prop := CovAnc T (pathComps p) ∧ dotdot ∉ pathComps p

/-- covered, or a name that did not exist when the extraction started: metadata of a directory the
    extraction itself made -/
def MArg (T : List Path) (fs0 : FS) (p : Str) : Prop :=
  (Cov T (pathComps p) ∨ fs0.lookup (pathComps p) = none) ∧ dotdot ∉ pathComps p

def SysFr (T : List Path) (fs0 : FS) : Sys → Prop
  | .lstat _ | .stat _ | .readFile _ | .getxattr _ _ | .readlink _ | .listTree _ | .setUmask _ => True
  | .mkdir p _ => CArg T p
  | .mkdirAll p _ => CArg T p
  | .createWrite p _ _ => FArg T p
  | .link old new => MArg T fs0 old ∧ CArg T new
  | .symlink _ _ => False
  | .mknod p _ _ _ => CArg T p
  | .chown p _ _ _ => MArg T fs0 p
  | .chmod p _ => MArg T fs0 p
  | .setxattr p _ _ _ => MArg T fs0 p
  | .utimes p _ _ => MArg T fs0 p
  | .removeAll p => FArg T p
  | .mkdtemp dir pfx => CArg T (join dir (pfx ++ b!"0000000000"))
  | .chroot _ => False

theorem FArg.toC {T : List Path} {p : Str} (h : FArg T p) : CArg T p := ⟨Or.inl h.1, h.2⟩
theorem FArg.toM {T : List Path} {fs0 : FS} {p : Str} (h : FArg T p) : MArg T fs0 p := ⟨Or.inl h.1, h.2⟩

theorem SysFr.creates {T : List Path} {fs0 : FS} {s : Sys} {p : Str} {k : Kind} (hs : SysFr T fs0 s)
    (hc : s.Creates p k) : CArg T p := by
  cases hc with
  | createWrite => exact hs.toC
  | symlink => exact hs.elim
  | mkdir | mknod | mkdtemp => exact hs

theorem SysFr.alters {T : List Path} {fs0 : FS} {s : Sys} {p : Str} (hs : SysFr T fs0 s) (ha : s.Alters p) :
    MArg T fs0 p := by
  cases ha with
  | createWrite => exact hs.toM
  | chown | chmod | setxattr | utimes => exact hs

theorem StepEff.frame {T : List Path} {fs0 : FS} (h0 : NextFresh fs0) {w w' : World} {s : Sys} (hr : w.root = [])
    (hns : NoSym w.fs) (hf : Framed T fs0 w.fs) (hs : SysFr T fs0 s) (he : StepEff w s w') : Framed T fs0 w'.fs := by
  cases he with
  | same => exact hf
  | umask => exact hf
  | chroot => exact hs.elim
  | create hc hq hn =>
    have ha := hs.creates hc
    obtain rfl := hq.lexical hr hns ha.2
    exact hf.create h0 _ _ hn ha.1
  | write ha hq hl hi =>
    have ha := hs.alters ha
    obtain rfl := hq.lexical hr hns ha.2
    -- the inode written has a name that is covered or new: not one the frame speaks of
    exact hf.setInode _ _ hi fun ho => absurd ho (hf.not_out hl ha.1)
  | link hqo hqn hl _ hn =>
    obtain rfl := hqo.lexical hr hns hs.1.2
    obtain rfl := hqn.lexical hr hns hs.2.2
    exact hf.addName _ _ _ hn hl hs.1.1 hs.2.1
  | remove hq =>
    obtain rfl := hq.lexical hr hns hs.2
    exact hf.removeSubtree _ hs.1
  | clear hq =>
    have e := hq.lexical hr hns hs.2
    exact Framed.all_covered (hr ▸ e ▸ hs.1) (by rw [next_removeBelow]; exact hf.next_le)

/-- **a call whose mutating arguments are covered keeps the frame** (no symbolic links, thread root "/");
    `mkdirAll` is `mkdirAllK_frame` below -/
theorem step_frame (T : List Path) (fs0 : FS) (h0 : NextFresh fs0) (w : World) (hr : w.root = []) (hns : NoSym w.fs)
    (s : Sys) (hf : Framed T fs0 w.fs) (hs : SysFr T fs0 s) (hnm : ∀ p perm, s ≠ .mkdirAll p perm) :
    Framed T fs0 (step w s).2.fs := by
  rcases step_eff w s with he | ⟨p, perm, rfl⟩
  · exact he.frame h0 hr hns hf hs
  · exact absurd rfl (hnm p perm)

/-- `os.MkdirAll` of a path at, above or beneath the destination that is covered or on the way to a covered
    path: only missing directories are made -/
theorem mkdirAllK_frame (dp : Path) (T : List Path) (fs0 : FS) (h0 : NextFresh fs0) :
    ∀ (fuel : Nat) (w : World) (p : Str) (perm : Nat),
    LInv dp w → ChainNames dp w.fs → dotdot ∉ pathComps p → (dp <+: pathComps p ∨ pathComps p <+: dp) →
    Framed T fs0 w.fs → CovAnc T (pathComps p) → Framed T fs0 (mkdirAllK fuel w p perm).2.fs := by
  intro fuel w p perm h hc hdd hcmp hf hca
  refine (mkdirAllK_inv (fun w' => (LInv dp w' ∧ ChainNames dp w'.fs) ∧ Framed T fs0 w'.fs) p perm ?_ fuel w p
    List.prefix_rfl ⟨⟨h, hc⟩, hf⟩).2
  intro w1 p' hp' ⟨⟨h1, hc1⟩, hf1⟩
  obtain ⟨hdd', hcmp'⟩ := cmp_of_prefix hp' hdd hcmp
  have hm := mkdirOne_cmp dp w1 p' perm h1 hc1 hdd' hcmp'
  exact ⟨⟨hm.1.2, hm.2⟩, (mkdirOne_eff w1 p' perm).frame (s := .mkdir p' perm) h0 h1.root h1.nosym hf1 ⟨hca.of_prefix hp', hdd'⟩⟩

theorem step_good_frame (dp : Path) (T : List Path) (fs0 : FS) (h0 : NextFresh fs0) (w : World) (s : Sys)
    (h : LW dp w) (hg : SysGood dp s) (hf : Framed T fs0 w.fs) (hs : SysFr T fs0 s) : Framed T fs0 (step w s).2.fs := by
  by_cases hm : ∃ p perm, s = .mkdirAll p perm
  · obtain ⟨p, perm, rfl⟩ := hm
    rcases hg with hg | ⟨p', perm', e, hdd, hcmp⟩
    · exact absurd hg id
    · injection e with e1 e2
      subst e1
      simp only [step]
      exact mkdirAllK_frame dp T fs0 h0 _ w p perm h.inv h.chainNames hdd hcmp hf hs.1
  · exact step_frame T fs0 h0 w h.inv.root h.inv.nosym s hf hs (fun p perm e => hm ⟨p, perm, e⟩)

end GA
