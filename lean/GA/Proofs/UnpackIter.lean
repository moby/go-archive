import GA.Proofs.Calls
/-
  One iteration of the loop of `Unpack` as a program of its own (`unpackIterP`), and the loop as "one iteration, then
  the rest" (`unpackLoop_cons`).  Both are the loop's body (`unpackIterK`) under a continuation `k`, by `rfl`
  (`k (.error out)`: `Unpack` returns `out` now; `k (.ok d)`: it goes on with the deferred list `d`); a `bind` after
  the body goes into the continuation.  The body is cut into two named stages, `unpackClearK` (make room at the path) and
  `unpackWriteK` (write the entry).  The text of the body thus stands three times (in `unpackLoop` of
  GA/M/Unpack.lean, as `unpackIterP`, as the `…K` stages), tied only by the `rfl` of `unpackIterP_eq` and
  `unpackLoop_eq`: a change of the model's loop has to be made in all three.  The iteration is walked once, in
  `Prog.Sem G R` for any `G` and `R` (`walk_unpackIter`): it makes the calls of `UnpackOn`, which carry the answers
  they depend on as evidence `R s r`, and returns as `IterRes` says; `iter_all` (whatever the calls answer) is an
  instance, as are `lex_iter` in `LexUnpack` and `fr_iter` in `FrameUnpack`.  Last, the run of the loop as a fold of
  the runs of its iterations (`loopRun`, `unpackLoop_run`, `loopRun_append`), and what holds of every iteration's
  result and composes holds of the fold's (`loopRun_all`).
-/
namespace GA

def unpackIterP (dest : Str) (o : Opts) (e : Entry) (dirs : List Entry) : Prog (Except Out (List Entry)) := do
    if e.typ == .xglobal then return .ok dirs
    else
      let n := clean e.name
      if o.excludes.any (fun x => hasPrefix n x) then return .ok dirs
      else match guardName dest n with
      | .error out => return .error out
      | .ok p =>
        let i ← impliedDirsP dest n o
        if isErr i then return .error .err
        let l ← sys (.lstat p)
        let act := actOf o l e (p == clean dest)
        if act = 1 then return .error .err
        if act = 2 then return .ok dirs
        else
          let rm ← (if act = 3 then sys (.removeAll p) else pure .ok)
          if isErr rm then return .error .err
          match remapE o e with
          | none => return .error .err
          | some e' =>
            let conv ← (if o.overlay then convertReadP p e' else pure (some true))
            match conv with
            | none => return .error .err
            | some false => return .ok dirs
            | some true =>
            let out ← createTarFileP p dest e' o
            if out != .ok then return .error out
            return .ok (if e.typ == .dir then { e' with name := n } :: dirs else dirs)

def iterK (dest : Str) (o : Opts) (es : List Entry) : Except Out (List Entry) → Prog Out
  | .error out => pure out
  | .ok d => unpackLoop dest o es d

theorem remapE_eq (o : Opts) (e e' : Entry) (h : remapE o e = some e') : ∃ u g, e' = { e with uid := u, gid := g } := by
  obtain ⟨pr, _, h⟩ := Option.map_eq_some_iff.mp h
  exact ⟨pr.1, pr.2, h.symm⟩

theorem remapE_typ (o : Opts) (e e' : Entry) (h : remapE o e = some e') : e'.typ = e.typ := by
  obtain ⟨u, g, rfl⟩ := remapE_eq o e e' h
  rfl

theorem remapE_linkname (o : Opts) (e e' : Entry) (h : remapE o e = some e') : e'.linkname = e.linkname := by
  obtain ⟨u, g, rfl⟩ := remapE_eq o e e' h
  rfl

/-- `go`: what follows once room has been made at `p` — in `unpackIterK` the writing stage `unpackWriteK` -/
def unpackClearK {β : Type} (dest : Str) (o : Opts) (e : Entry) (p : Str) (dirs : List Entry)
    (k : Except Out (List Entry) → Prog β) (go : Prog β) : Prog β := do
  let i ← impliedDirsP dest (clean e.name) o
  if isErr i then k (.error .err)
  else
  let l ← sys (.lstat p)
  let act := actOf o l e (p == clean dest)
  if act = 1 then k (.error .err)
  else
  if act = 2 then k (.ok dirs)
  else
    let rm ← (if act = 3 then sys (.removeAll p) else pure .ok)
    if isErr rm then k (.error .err)
    else go

def unpackWriteK {β : Type} (dest : Str) (o : Opts) (e : Entry) (p : Str) (dirs : List Entry)
    (k : Except Out (List Entry) → Prog β) : Prog β :=
  match remapE o e with
  | none => k (.error .err)
  | some e' => do
    let conv ← (if o.overlay then convertReadP p e' else pure (some true))
    match conv with
    | none => k (.error .err)
    | some false => k (.ok dirs)
    | some true =>
    let out ← createTarFileP p dest e' o
    if out != .ok then k (.error out)
    else k (.ok (if e.typ == .dir then { e' with name := clean e.name } :: dirs else dirs))

def unpackIterK {β : Type} (dest : Str) (o : Opts) (e : Entry) (dirs : List Entry)
    (k : Except Out (List Entry) → Prog β) : Prog β :=
  if e.typ == .xglobal then k (.ok dirs)
  else if o.excludes.any (fun x => hasPrefix (clean e.name) x) then k (.ok dirs)
  else match guardName dest (clean e.name) with
  | .error out => k (.error out)
  | .ok p => unpackClearK dest o e p dirs k (unpackWriteK dest o e p dirs k)

theorem unpackIterP_eq (dest : Str) (o : Opts) (e : Entry) (dirs : List Entry) :
    unpackIterP dest o e dirs = unpackIterK dest o e dirs pure := rfl

theorem unpackLoop_eq (dest : Str) (o : Opts) (e : Entry) (es dirs : List Entry) :
    unpackLoop dest o (e :: es) dirs = unpackIterK dest o e dirs (iterK dest o es) := rfl

theorem unpackClearK_bind {β γ : Type} (dest : Str) (o : Opts) (e : Entry) (p : Str) (dirs : List Entry)
    (k : Except Out (List Entry) → Prog β) (go : Prog β) (f : β → Prog γ) :
    (unpackClearK dest o e p dirs k go).bind f = unpackClearK dest o e p dirs (fun r => (k r).bind f) (go.bind f) := by
  simp only [unpackClearK, Prog.bind_eq, Prog.bind_assoc, Prog.ite_bind]

theorem unpackWriteK_bind {β γ : Type} (dest : Str) (o : Opts) (e : Entry) (p : Str) (dirs : List Entry)
    (k : Except Out (List Entry) → Prog β) (f : β → Prog γ) :
    (unpackWriteK dest o e p dirs k).bind f = unpackWriteK dest o e p dirs (fun r => (k r).bind f) := by
  unfold unpackWriteK
  cases remapE o e with
  | none => rfl
  | some e' =>
    simp only [Prog.bind_eq, Prog.bind_assoc]
    congr 1; funext conv
    match conv with
    | none => rfl
    | some false => rfl
    | some true => simp only [Prog.bind_assoc, Prog.ite_bind]

theorem unpackIterK_bind {β γ : Type} (dest : Str) (o : Opts) (e : Entry) (dirs : List Entry)
    (k : Except Out (List Entry) → Prog β) (f : β → Prog γ) :
    (unpackIterK dest o e dirs k).bind f = unpackIterK dest o e dirs (fun r => (k r).bind f) := by
  unfold unpackIterK
  rw [Prog.ite_bind, Prog.ite_bind]
  cases guardName dest (clean e.name) with
  | error out => rfl
  | ok p => simp only [unpackClearK_bind, unpackWriteK_bind]

theorem unpackLoop_cons (dest : Str) (o : Opts) (e : Entry) (es dirs : List Entry) :
    unpackLoop dest o (e :: es) dirs = (unpackIterP dest o e dirs).bind (iterK dest o es) := by
  rw [unpackLoop_eq, unpackIterP_eq, unpackIterK_bind]; rfl

theorem guardName_error (dest n : Str) (out : Out) (h : guardName dest n = .error out) : out ≠ .ok := by
  revert h
  fun_cases guardName dest n <;> nofun

theorem guardName_path {dest n p : Str} (h : guardName dest n = .ok p) : p = join dest n := by
  revert h
  fun_cases guardName dest n
  case case3 => exact fun h => (Except.ok.inj h).symm
  all_goals nofun

/-- A new element of the deferred list comes with the fact that its name passed the guard: that is what puts its
    path beneath the destination when the list is used at the end of the loop (`IterRes.dirs`, for `DirsOK`). -/
def IterRes (dest : Str) (e : Entry) (dirs : List Entry) : Except Out (List Entry) → Prop
  | .error out => out ≠ .ok
  | .ok d => d = dirs ∨ ∃ (e' : Entry) (p : Str), guardName dest (clean e.name) = .ok p ∧
      d = { e' with name := clean e.name } :: dirs

theorem IterRes.dirs {P : Entry → Prop} {dest : Str} {e : Entry} {dirs d : List Entry} (h : IterRes dest e dirs (.ok d))
    (hnew : ∀ (e' : Entry) (p : Str), guardName dest (clean e.name) = .ok p → P { e' with name := clean e.name })
    (hdirs : ∀ x ∈ dirs, P x) : ∀ x ∈ d, P x := by
  rcases h with rfl | ⟨e', p, hg, rfl⟩
  · exact hdirs
  · exact List.forall_mem_cons.mpr ⟨hnew e' p hg, hdirs⟩

/-- the calls of an iteration for an entry whose path `p` the name guard accepted, apart from those of the overlay
    conversion; `implied` are those of `createImpliedDirectories`, `replace` carries the answer of `lstat` that made
    the decision "remove" -/
inductive UnpackOn (R : Sys → Res → Prop) (dest : Str) (o : Opts) (e : Entry) (p : Str) : Sys → Prop
  /-- calls that only read are left free, on any path: `SysGood` and `SysFr` constrain mutating calls only -/
  | look (r : RSys) : UnpackOn R dest o e p r.toSys
  | implied {s : Sys} : MkdirCall R (clean (join dest (dir (clean e.name)))) impliedMode (rootPair o) s → UnpackOn R dest o e p s
  | replace {l : Res} : R (.lstat p) l → actOf o l e (p == clean dest) = 3 → UnpackOn R dest o e p (.removeAll p)
  | create {e' : Entry} {s : Sys} : remapE o e = some e' → CreateOn p dest e' s → UnpackOn R dest o e p s

section walk
variable {G : Sys → Prop} {R : Sys → Res → Prop} {dest : Str} {o : Opts} {e : Entry} {p : Str} {dirs : List Entry}
  (hG : ∀ s, UnpackOn R dest o e p s → G s)
include hG

theorem walk_unpackClearK (go : Prog (Except Out (List Entry))) (hgo : go.Sem G R (IterRes dest e dirs)) :
    (unpackClearK dest o e p dirs pure go).Sem G R (IterRes dest e dirs) := by
  have herr : (pure (.error .err) : Prog (Except Out (List Entry))).Sem G R (IterRes dest e dirs) := sem_pure _ nofun
  unfold unpackClearK
  refine Prog.Sem.bind _ _ (walk_impliedDirs dest _ o (hG _ (.look (.lstat _))) fun s h => hG s (.implied h))
    fun i _ => ite_both herr ?_
  refine Prog.Sem.bind _ _ (sem_sys _ (hG _ (.look (.lstat p))) fun _ h => h) fun l hl =>
    ite_both herr (ite_both (sem_pure _ (Or.inl rfl)) ?_)
  refine Prog.Sem.bind _ _ (Q := fun _ => True) ?_ fun rm _ => ite_both herr hgo
  exact ite_rule (fun h3 => sem_any _ (hG _ (.replace hl h3))) fun _ => trivial

theorem walk_unpackWriteK (hg : guardName dest (clean e.name) = .ok p)
    (hGc : o.overlay = true → ∀ e', (convertReadP p e').Sem G R (fun _ => True)) :
    (unpackWriteK dest o e p dirs pure).Sem G R (IterRes dest e dirs) := by
  fun_cases unpackWriteK dest o e p dirs pure
  case case1 => exact sem_pure _ nofun
  case case2 e' he' =>
    refine Prog.Sem.bind _ _ (Q := fun _ => True) (ite_rule (fun h => hGc h e') fun _ => trivial) fun conv _ => ?_
    split
    · exact sem_pure _ nofun
    · exact sem_pure _ (Or.inl rfl)
    · refine Prog.Sem.bind _ _ ((calls_createTarFile p dest e' o).sem fun s hs => hG s (.create he' hs)) fun out _ => ?_
      split
      · rename_i hne
        exact sem_pure _ (fun h => by subst h; simp at hne)
      · refine sem_pure _ ?_
        split
        · exact Or.inr ⟨e', p, hg, rfl⟩
        · exact Or.inl rfl

end walk

theorem walk_unpackIter {G : Sys → Prop} {R : Sys → Res → Prop} (dest : Str) (o : Opts) (e : Entry) (dirs : List Entry)
    (hG : ∀ p, guardName dest (clean e.name) = .ok p → ∀ s, UnpackOn R dest o e p s → G s)
    (hGc : o.overlay = true → ∀ p e', (convertReadP p e').Sem G R (fun _ => True)) :
    (unpackIterP dest o e dirs).Sem G R (IterRes dest e dirs) := by
  rw [unpackIterP_eq]
  fun_cases unpackIterK dest o e dirs pure
  case case3 out hg => exact sem_pure _ (guardName_error _ _ _ hg)
  case case4 p hg => exact walk_unpackClearK (hG p hg) _ (walk_unpackWriteK (hG p hg) hg fun h => hGc h p)
  -- a PAX global header, an excluded name
  all_goals exact sem_pure _ (Or.inl rfl)

theorem iter_all (dest : Str) (o : Opts) (e : Entry) (dirs : List Entry) :
    (unpackIterP dest o e dirs).All (IterRes dest e dirs) :=
  Prog.Sem.all _ (walk_unpackIter dest o e dirs (fun _ _ _ _ => trivial) fun _ _ _ => Prog.Sem.of_all _ (Prog.All.trivial _))

/-- `.error out`: `Unpack` returned `out` at some entry; `.ok dirs`: every entry was processed and `dirs` is the
    deferred directory list, newest first -/
def loopRun (dest : Str) (o : Opts) : List Entry → List Entry → World → Except Out (List Entry) × World
  | [], dirs, w => (.ok dirs, w)
  | e :: es, dirs, w =>
    match (unpackIterP dest o e dirs).run w with
    | (.error out, w') => (.error out, w')
    | (.ok d, w') => loopRun dest o es d w'

/-- `Unpack` = the fold of its iterations, then the deferred directory times -/
theorem unpackLoop_run (dest : Str) (o : Opts) : ∀ (es dirs : List Entry) (w : World),
    (unpackLoop dest o es dirs).run w =
      match loopRun dest o es dirs w with
      | (.error out, w') => (out, w')
      | (.ok d, w') => (dirTimesP dest d.reverse).run w' := by
  intro es dirs w
  fun_induction loopRun dest o es dirs w
  case case1 => rw [unpackLoop]
  -- the first iteration ends the loop, or the rest follows
  case case2 h => rw [unpackLoop_cons, Prog.run_bind, h]; rfl
  case case3 h ih => rw [unpackLoop_cons, Prog.run_bind, h]; exact ih

theorem loopRun_append (dest : Str) (o : Opts) : ∀ (pre rest dirs : List Entry) (w : World),
    loopRun dest o (pre ++ rest) dirs w =
      match loopRun dest o pre dirs w with
      | (.error out, w') => (.error out, w')
      | (.ok d, w') => loopRun dest o rest d w' := by
  intro pre rest dirs w
  fun_induction loopRun dest o pre dirs w
  case case1 => rfl
  case case2 h => rw [List.cons_append, loopRun, h]
  case case3 h ih => rw [List.cons_append, loopRun, h]; exact ih

theorem loopRun_all {dest : Str} {o : Opts} {P : List Entry → Except Out (List Entry) → Prop} (hnil : ∀ d, P d (.ok d))
    (hstep : ∀ d d1 r, P d (.ok d1) → P d1 r → P d r) :
    ∀ (es : List Entry), (∀ e ∈ es, ∀ d, (unpackIterP dest o e d).All (P d)) →
      ∀ d w, P d (loopRun dest o es d w).1 := by
  intro es h d w
  fun_induction loopRun dest o es d w
  case case1 => exact hnil _
  case case2 e _ d w _ _ heq => exact heq ▸ Prog.All.run _ w (h e List.mem_cons_self d)
  case case3 e _ d w _ _ heq ih =>
    have ha := Prog.All.run _ w (h e List.mem_cons_self d)
    rw [heq] at ha
    exact hstep _ _ _ ha (ih fun x hx => h x (List.mem_cons_of_mem _ hx))

theorem loopRun_error_ne_ok (dest : Str) (o : Opts) (es dirs : List Entry) (w : World) (out : Out) (w' : World)
    (h : loopRun dest o es dirs w = (.error out, w')) : out ≠ .ok :=
  loopRun_all (P := fun _ r => ∀ out, r = .error out → out ≠ .ok) (fun _ _ h => nomatch h) (fun _ _ _ _ h => h) es
    (fun e _ d => Prog.All.mono (fun _ hr _ he => by subst he; exact hr) _ (iter_all dest o e d)) dirs w out (by rw [h])

/-- the deferred list after the fold: the old list with, in front of it, entries named like entries of the archive -/
theorem loopRun_dirs_shape (dest : Str) (o : Opts) : ∀ (es dirs : List Entry) (w : World) (d : List Entry) (w' : World),
    loopRun dest o es dirs w = (.ok d, w') →
    ∃ news, d = news ++ dirs ∧ ∀ x ∈ news, ∃ e ∈ es, x.name = clean e.name := by
  intro es dirs w d w' h
  refine loopRun_all (P := fun dirs r => ∀ d, r = .ok d → ∃ news, d = news ++ dirs ∧ ∀ x ∈ news, ∃ e ∈ es, x.name = clean e.name)
    (fun _ _ h => ⟨[], Except.ok.inj h ▸ rfl, nofun⟩) ?_ es
    (fun e he d0 => Prog.All.mono (fun _ hr d hd => ?_) _ (iter_all dest o e d0)) dirs w d (by rw [h])
  · intro _ _ _ h1 h2 d hr
    obtain ⟨n1, h1, hn1⟩ := h1 _ rfl
    obtain ⟨n2, h2, hn2⟩ := h2 d hr
    exact ⟨n2 ++ n1, by rw [h2, h1, List.append_assoc], fun x hx => (List.mem_append.mp hx).elim (hn2 x) (hn1 x)⟩
  · subst hd
    rcases hr with rfl | ⟨e', p, _, rfl⟩
    · exact ⟨[], rfl, nofun⟩
    · exact ⟨[{ e' with name := clean e.name }], rfl, fun y hy => ⟨e, he, by rw [List.mem_singleton.mp hy]⟩⟩

end GA
