import GA.Proofs.LayerIter
import GA.Proofs.UnpackIter
/-
  One iteration of `UnpackLayer`, walked once, in `Prog.Sem G R` for any `G` and `R`: which calls it makes (`StageOn`,
  `EntryOn`: `G` has to allow these) and how it ends (`Staged`, `IterEnd`): `walk_layerIter`.  Where a call is made
  only because an earlier call answered as it did, the footprint carries that answer as evidence `R s r`; the walk
  itself assumes nothing of `R`.  So one walk serves `Prog.All` (`G`, `R` trivial: LayerAll.lean), `LexSem`
  (LexLayer.lean) and `FrSem` (FrameLayer.lean), where `R` is what worlds with the invariant answer; each of the two
  needs one lemma per footprint saying that it allows it.
-/
namespace GA

variable {R : Sys → Res → Prop} {G : Sys → Prop}

theorem walk_resolveSrc (st : LState) (e : Entry) (hG : ∀ p, G (.readFile p)) :
    (resolveSrcP st e).Sem G R (fun r => match r with
      | .error out => out ≠ .ok
      | .ok src => src = e ∨ ∃ x ∈ st.staged, src.typ = x.2.typ) := by
  fun_cases resolveSrcP st e
  case case1 => exact sem_pure _ nofun
  case case2 hf =>
    -- a link into the staging area whose name was staged: the header is the staged one
    refine Prog.Sem.bind _ _ (sem_any _ (hG _)) fun d _ => ?_
    split
    · exact sem_pure _ (Or.inr ⟨_, List.mem_of_find?_eq_some hf, rfl⟩)
    · exact sem_pure _ nofun
  case case3 => exact sem_pure _ (Or.inl rfl)

theorem walk_opaqueWalk (dirS : Str) (unpacked : List Str) : ∀ (items : List (Str × Kind × Nat)) (skip : Option Nat),
    (∀ it ∈ items, it.1 ≠ dirS → G (.removeAll it.1)) → (opaqueWalkP dirS unpacked items skip).Sem G R (fun _ => True)
  | [], _, _ => trivial
  | (q, k, d) :: rest, skip, h => by
    have hrest := fun sk => walk_opaqueWalk dirS unpacked rest sk fun it hit => h it (List.mem_cons_of_mem _ hit)
    rw [opaqueWalkP_cons]
    exact ite_rule (fun _ => hrest _) fun _ => ite_rule (fun _ => hrest _) fun hq => ite_rule (fun _ => hrest _) fun _ =>
      Prog.Sem.bind _ _ (sem_any _ (h (q, k, d) List.mem_cons_self hq)) fun r _ => ite_rule (fun _ => trivial) fun _ => hrest _

theorem walk_whiteoutRemove (orig : Str) (hs : G (.stat (dir orig))) (hr : G (.removeAll orig)) :
    (whiteoutRemoveP orig).Sem G R (fun _ => True) :=
  ⟨hs, fun _ _ => ite_both trivial ⟨hr, fun _ _ => trivial⟩⟩

/-- the name the kernel model's `mkdtemp` makes for `os.MkdirTemp(dest, "dockerplnk")` (`step` in GA/K/Sys.lean,
    `mkdtemp_result`): ten zeros where Go's suffix is random -/
def tmpName : Str := b!"dockerplnk" ++ b!"0000000000"

theorem mkdtemp_result (w : World) (dir pfx : Str) (t : Str) (h : (step w (.mkdtemp dir pfx)).1 = .str t) :
    t = join dir (pfx ++ b!"0000000000") := by
  simp only [step] at h
  split at h
  · cases h
  · split at h
    · cases h
    · split at h
      · cases h
      · injection h with h; exact h.symm

theorem calls_layerFinish (dest : Str) (st : LState) (out : Out) :
    (layerFinish dest st out).Calls (fun s => st.tmp ≠ [] ∧ s = .removeAll st.tmp) :=
  Prog.Sem.bind _ _ (Q := fun _ => True) (ite_rule (fun h => calls_sys _ ⟨h, rfl⟩) fun _ => trivial) fun _ _ => trivial

/-- `t` is the staging directory for an entry staged from state `st`: the one remembered, or — the evidence — what
    `mkdtemp` answered -/
inductive StagingAt (R : Sys → Res → Prop) (dest : Str) (st : LState) : Str → Prop
  | made {t : Str} : st.tmp = [] → R (.mkdtemp dest b!"dockerplnk") (.str t) → StagingAt R dest st t
  | kept : st.tmp ≠ [] → StagingAt R dest st st.tmp

inductive Staged (R : Sys → Res → Prop) (dest : Str) (e : Entry) (n : Str) (st : LState) : LState → Prop
  | skip : Staged R dest e n st st
  | staged {t : Str} : (hasPrefix n whMetaPrefix && hasPrefix n whLinkDir && e.typ == .reg) = true → StagingAt R dest st t →
      Staged R dest e n st { st with staged := (base n, e) :: st.staged.filter (fun x => x.1 ≠ base n), tmp := t }

section
variable {dest : Str} {st : LState} {t : Str}
  (hR : ∀ t, R (.mkdtemp dest b!"dockerplnk") (.str t) → ∃ w : World, (step w (.mkdtemp dest b!"dockerplnk")).1 = .str t)
include hR

theorem StagingAt.made_or_kept (h : StagingAt R dest st t) : t = join dest tmpName ∨ st.tmp ≠ [] ∧ t = st.tmp := by
  cases h with
  | made _ hr =>
    obtain ⟨w, hr⟩ := hR t hr
    exact Or.inl (mkdtemp_result w _ _ t hr)
  | kept hne => exact Or.inr ⟨hne, rfl⟩

theorem StagingAt.eq (h : StagingAt R dest st t) (h0 : st.tmp = [] ∨ st.tmp = join dest tmpName) : t = join dest tmpName :=
  (h.made_or_kept hR).elim id fun ⟨hne, ht⟩ => ht ▸ h0.resolve_left hne

end

theorem staged_reg {e : Entry} {n : Str} (h : (hasPrefix n whMetaPrefix && hasPrefix n whLinkDir && e.typ == .reg) = true) :
    e.typ = .reg := by
  simp only [Bool.and_eq_true, beq_iff_eq] at h
  exact h.2

section
variable {dest : Str} {e : Entry} {n : Str} {st st' : LState}
theorem Staged.size (h : Staged R dest e n st st') : st'.size = st.size := by cases h <;> rfl
theorem Staged.dirs (h : Staged R dest e n st st') : st'.dirs = st.dirs := by cases h <;> rfl
theorem Staged.unpacked (h : Staged R dest e n st st') : st'.unpacked = st.unpacked := by cases h <;> rfl
end

/-- the calls of `stageP`; the directory in `create` and `cleanup` is whatever `mkdtemp` answered (`StagingAt`, `R`) -/
inductive StageOn (R : Sys → Res → Prop) (dest : Str) (e : Entry) (n : Str) (st : LState) : Sys → Prop
  | mkdtemp : st.tmp = [] → StageOn R dest e n st (.mkdtemp dest b!"dockerplnk")
  | create {t : Str} {s : Sys} : (hasPrefix n whMetaPrefix && hasPrefix n whLinkDir && e.typ == .reg) = true →
      StagingAt R dest st t → CreateOn (join t (base n)) dest e s → StageOn R dest e n st s
  /-- `defer os.RemoveAll(aufsTempdir)`, registered when the directory was made for this entry -/
  | cleanup {t : Str} : st.tmp = [] → StagingAt R dest st t → StageOn R dest e n st (.removeAll t)

theorem walk_stage (dest : Str) (o : Opts) (e : Entry) (st : LState) (n : Str) (hG : ∀ s, StageOn R dest e n st s → G s) :
    (stageP dest o e st n).Sem G R (fun r => match r with
      | .error out => out ≠ .ok
      | .ok st' => Staged R dest e n st st') := by
  fun_cases stageP dest o e st n
  case case1 hc _ _ =>
    refine Prog.Sem.bind _ _ (Q := fun mk => ∀ t, mk = .str t → StagingAt R dest st t) ?_ fun mk hmk => ?_
    · split
      · rename_i h0
        exact sem_sys _ (hG _ (.mkdtemp h0)) fun r hr t ht => .made h0 (ht ▸ hr)
      · rename_i hne
        exact sem_pure _ fun t ht => Res.str.inj ht ▸ .kept hne
    · split
      · rename_i t
        have ht := hmk t rfl
        refine Prog.Sem.bind _ _ ((calls_createTarFile _ dest e o).sem fun s hs => hG s (.create hc ht hs)) fun out _ => ?_
        split
        · rename_i hne
          have hne' : out ≠ .ok := by simpa using hne
          split
          · rename_i h0
            exact Prog.Sem.bind _ _ (sem_any _ (hG _ (.cleanup h0 ht))) fun _ _ => sem_pure _ hne'
          · exact sem_pure _ hne'
        · exact sem_pure _ (.staged hc ht)
      · exact sem_pure _ nofun
  case case2 => exact sem_pure _ .skip

inductive IterEnd (dest : Str) (e : Entry) (st : LState) : LayerRes → Prop
  | stop {out : Out} : out ≠ .ok → IterEnd dest e st (.error (out, st))
  | skip : IterEnd dest e st (.ok st)
  | made : guardName dest (clean e.name) = .ok (join dest (clean e.name)) → IterEnd dest e st (.ok { st with
      dirs := (if e.typ == .dir then { e with name := clean e.name } :: st.dirs else st.dirs),
      unpacked := join dest (clean e.name) :: st.unpacked })

section
variable {dest : Str} {e : Entry} {st st' : LState} {r : LayerRes} {out : Out}

theorem IterEnd.ne_ok (h : IterEnd dest e st (.error (out, st'))) : out ≠ .ok := by
  cases h; assumption

theorem IterEnd.size (h : IterEnd dest e st r) : (resSt r).size = st.size := by
  cases h <;> rfl

theorem IterEnd.tmp (h : IterEnd dest e st r) : (resSt r).tmp = st.tmp := by
  cases h <;> rfl

theorem IterEnd.staged (h : IterEnd dest e st r) : (resSt r).staged = st.staged := by
  cases h <;> rfl

theorem IterEnd.dirs (h : IterEnd dest e st r) : (resSt r).dirs = st.dirs ∨
    (resSt r).dirs = { e with name := clean e.name } :: st.dirs ∧
      guardName dest (clean e.name) = .ok (join dest (clean e.name)) := by
  cases h
  · exact Or.inl rfl
  · exact Or.inl rfl
  · rename_i hg
    show (if _ then _ else _) = _ ∨ (if _ then _ else _) = _ ∧ _
    split
    · exact Or.inr ⟨rfl, hg⟩
    · exact Or.inl rfl

theorem IterEnd.unpacked (h : IterEnd dest e st (.ok st')) :
    st'.unpacked = st.unpacked ∨ st'.unpacked = join dest (clean e.name) :: st.unpacked := by
  cases h
  · exact Or.inl rfl
  · exact Or.inr rfl
end

/-- the calls of an iteration after staging has left the state `st`, for an entry whose path `p` the name guard
    accepted.  `implied` are those of `createImpliedDirectories`; `clear` carries the listing that named the item,
    `replace` the answer of `lstat` that made `needRmL` true and passed the check "the destination is never traded for
    a non-directory": `lstat` sees a directory at the destination, so the two put `p` off it (`EntryOn.lex`) -/
inductive EntryOn (R : Sys → Res → Prop) (dest : Str) (o : Opts) (e : Entry) (st : LState) (p : Str) : Sys → Prop
  /-- calls that only read are left free, on any path: `SysGood` and `SysFr` constrain mutating calls only -/
  | look (r : RSys) : EntryOn R dest o e st p r.toSys
  | implied {s : Sys} : MkdirCall R (clean (join dest (dir (clean e.name)))) impliedMode (rootPair o) s → EntryOn R dest o e st p s
  | clear {items : List (Str × Kind × Nat)} {it : Str × Kind × Nat} : base p = whOpaqueDir → isWithin dest (dir p) = true →
      R (.listTree (dir p)) (.tree items) → it ∈ items → it.1 ≠ dir p → EntryOn R dest o e st p (.removeAll it.1)
  | whiteout : hasPrefix (base p) whPrefix = true → base p ≠ whOpaqueDir →
      isWithin dest (join (dir p) ((base p).drop whPrefix.length)) = true →
      join (dir p) ((base p).drop whPrefix.length) ≠ clean dest →
      EntryOn R dest o e st p (.removeAll (join (dir p) ((base p).drop whPrefix.length)))
  | replace {l : Res} : R (.lstat p) l → needRmL l e = true → ¬ (needRmL l e && p = clean dest && e.typ != .dir) = true →
      EntryOn R dest o e st p (.removeAll p)
  | create {src src' : Entry} {s : Sys} : (src = e ∨ ∃ x ∈ st.staged, src.typ = x.2.typ) → remapE o src = some src' →
      CreateOn p dest src' s → EntryOn R dest o e st p s

section stages
variable {dest : Str} {o : Opts} {e : Entry} {st : LState} {p : Str} (hG : ∀ s, EntryOn R dest o e st p s → G s)
include hG

theorem walk_layerOpaqueK (hop : base p = whOpaqueDir) (hin : isWithin dest (dir p) = true) :
    (layerOpaqueK st (dir p) pure).Sem G R (IterEnd dest e st) := by
  unfold layerOpaqueK
  refine Prog.Sem.bind _ _ (sem_any _ (hG _ (.look (.lstat _)))) fun l _ => ?_
  split
  · exact sem_pure _ (.stop (by decide))
  refine Prog.Sem.bind _ _ (sem_sys _ (hG _ (.look (.listTree _))) fun _ h => h) fun t ht => ?_
  split
  · refine Prog.Sem.bind _ _ (walk_opaqueWalk _ _ _ none fun it hit hne => hG _ (.clear hop hin ht hit hne)) fun w _ => ?_
    split
    · exact sem_pure _ (.stop (by decide))
    · exact sem_pure _ .skip
  · exact sem_pure _ .skip
  · exact sem_pure _ (.stop (by decide))

theorem walk_layerWhiteoutK (hwh : hasPrefix (base p) whPrefix = true) (hno : base p ≠ whOpaqueDir) :
    (layerWhiteoutK dest st (join (dir p) ((base p).drop whPrefix.length)) pure).Sem G R (IterEnd dest e st) := by
  fun_cases layerWhiteoutK dest st (join (dir p) ((base p).drop whPrefix.length)) pure
  case case3 hin hnd =>
    -- the name is inside the destination and is not the destination: the removal
    refine Prog.Sem.bind _ _ (walk_whiteoutRemove _ (hG _ (.look (.stat _))) (hG _ (.whiteout hwh hno (by simpa using hin) hnd)))
      fun r _ => ?_
    split
    · exact sem_pure _ (.stop (by decide))
    · split
      · exact sem_pure _ (.stop (by decide))
      · exact sem_pure _ .skip
  all_goals exact sem_pure _ (.stop (by decide))

theorem walk_layerTailK (hg : guardName dest (clean e.name) = .ok p) :
    (layerTailK dest o e st p pure).Sem G R (IterEnd dest e st) := by
  unfold layerTailK
  refine Prog.Sem.bind _ _ (walk_resolveSrc st e fun _ => hG _ (.look (.readFile _))) fun srcR hsrc => ?_
  split
  · exact sem_pure _ (.stop hsrc)
  split
  · exact sem_pure _ (.stop (by decide))
  rename_i src' hrm
  refine Prog.Sem.bind _ _ ((calls_createTarFile p dest src' o).sem fun s hs => hG s (.create hsrc hrm hs)) fun out _ => ?_
  split
  · rename_i hne
    exact sem_pure _ (.stop (by simpa using hne))
  · obtain rfl := guardName_path hg
    exact sem_pure _ (.made hg)

theorem walk_layerEntryK (hg : guardName dest (clean e.name) = .ok p) :
    (layerEntryK dest o e st p pure).Sem G R (IterEnd dest e st) := by
  unfold layerEntryK
  refine Prog.Sem.bind _ _ (sem_sys _ (hG _ (.look (.lstat _))) fun _ h => h) fun l hl => ?_
  split
  · exact sem_pure _ (.stop (by decide))
  rename_i hguard
  refine Prog.Sem.bind _ _ (Q := fun _ => True) ?_ fun rm _ => ?_
  · split
    · rename_i hneed
      exact sem_any _ (hG _ (.replace hl hneed hguard))
    · trivial
  · split
    · exact sem_pure _ (.stop (by decide))
    · exact walk_layerTailK hG hg

end stages

theorem walk_layerIter (dest : Str) (o : Opts) (e : Entry) (st0 : LState)
    (hGs : ∀ s, StageOn R dest e (clean e.name) { st0 with size := st0.size + e.size } s → G s)
    (hGe : ∀ st p, Staged R dest e (clean e.name) { st0 with size := st0.size + e.size } st →
      guardName dest (clean e.name) = .ok p → ∀ s, EntryOn R dest o e st p s → G s) :
    (layerIterP dest o e st0).Sem G R (fun r => ∃ st,
      Staged R dest e (clean e.name) { st0 with size := st0.size + e.size } st ∧ IterEnd dest e st r) := by
  rw [layerIterP_eq]
  fun_cases layerIterK dest o e st0 pure
  case case1 => exact sem_pure _ ⟨_, .skip, .skip⟩
  refine Prog.Sem.bind _ _ (walk_stage dest o e _ _ hGs) fun stR hstR => ?_
  split
  · exact sem_pure _ ⟨_, .skip, .stop hstR⟩
  rename_i st
  refine Prog.Sem.imp ?_ fun r h => ⟨st, hstR, h⟩
  fun_cases layerNamedK dest o e st pure
  case case1 => exact sem_pure _ .skip
  case case2 hg => exact sem_pure _ (.stop (guardName_error _ _ _ hg))
  rename_i p hg
  have hG := hGe st p hstR hg
  unfold layerAtK
  refine Prog.Sem.bind _ _ (walk_impliedDirs dest _ o (hG _ (.look (.lstat _))) fun s h => hG s (.implied h)) fun i _ => ?_
  split
  · exact sem_pure _ (.stop (by decide))
  split
  · rename_i hwh
    fun_cases layerMarkK dest st p pure
    case case1 => exact sem_pure _ (.stop (by decide))
    case case2 hin hop => exact walk_layerOpaqueK hG hop (by simpa using hin)
    case case3 hno => exact walk_layerWhiteoutK hG hwh hno
  · exact walk_layerEntryK hG hg

end GA
