import GA.Proofs.LexConfine
import GA.Proofs.Programs
/-
  Programs whose every mutating call is lexically beneath the destination, judged along the runs from worlds that
  satisfy the invariant: such a program changes nothing outside the destination (`LexSem`, `LexSem.run`).  The
  invariant is `LW dp` = `LInv` (`LexConfine`) and `Chain`; the calls are `SysGood dp` = `SysLex` (there too) or an
  `os.MkdirAll` at, above or beneath the destination (`step_good`).  `AnsLW`: the answers of such worlds, for
  `LexSem.of_ans` / `.of_calls` from a `Prog.Sem` fact.
-/
namespace GA

/-- The paths above the destination are directories that have no name beneath `dp` (`OutsideOnly`): only of such an
    inode does `Confined dp` keep the record (`chain_step`). -/
def Chain (dp : Path) (fs : FS) : Prop :=
  ∀ pre, pre <+: dp → pre ≠ dp → ∃ i n, fs.lookup pre = some i ∧ fs.inode i = some n ∧ n.kind = .dir ∧ OutsideOnly dp fs i

theorem chain_step {dp : Path} {fs fs' : FS} (hc : Chain dp fs) (h : Confined dp fs fs') : Chain dp fs' := by
  intro pre hpre hne
  obtain ⟨i, n, hl, hi, hk, ho⟩ := hc pre hpre hne
  refine ⟨i, n, ?_, ?_, hk, OutsideOnly.step h ho⟩
  · rw [h.names_out pre (not_under_of_under (List.isPrefixOf_iff_prefix.mpr hpre) (Ne.symm hne))]; exact hl
  · rw [h.inode_out i ho]; exact hi

structure LW (dp : Path) (w : World) : Prop where
  inv : LInv dp w
  chain : Chain dp w.fs

theorem LW.chainNames {dp : Path} {w : World} (h : LW dp w) : ChainNames dp w.fs := by
  intro pre hpre
  by_cases he : pre = dp
  · rw [he]; exact h.inv.dest_some
  · obtain ⟨i, _, hl, _⟩ := h.chain pre hpre he
    rw [hl]; rfl

theorem LW.isDir_prefix {dp : Path} {w : World} (h : LW dp w) {pre : Path} (hpre : pre <+: dp) :
    w.fs.isDir pre = true := by
  by_cases he : pre = dp
  · rw [he]; exact h.inv.dest
  · obtain ⟨i, n, hl, hi, hk, _⟩ := h.chain pre hpre he
    rw [isDir_iff]
    exact ⟨n, by rw [get_def, hl]; exact hi, hk⟩

def SysGood (dp : Path) (s : Sys) : Prop :=
  SysLex dp s ∨ ∃ p perm, s = .mkdirAll p perm ∧ dotdot ∉ pathComps p ∧ (dp <+: pathComps p ∨ pathComps p <+: dp)

theorem step_good (dp : Path) (w : World) (s : Sys) (h : LW dp w) (hs : SysGood dp s) :
    Confined dp w.fs (step w s).2.fs ∧ LW dp (step w s).2 := by
  rcases hs with hs | ⟨p, perm, rfl, hdd, hcmp⟩
  · have := step_lex dp w s h.inv hs
    exact ⟨this.1, ⟨this.2, chain_step h.chain this.1⟩⟩
  · have := mkdirAllK_lex dp (p.length + 1) w p perm h.inv h.chainNames hdd hcmp
    simp only [step]
    exact ⟨this.1.1, ⟨this.1.2, chain_step h.chain this.1.1⟩⟩

/-- the continuation has to be fine for the answer of every world with the invariant, not only of the one a run
    is in: that is what lets `LexSem` compose by `bind` without tracking the world -/
def LexSem (dp : Path) {α : Type} (Q : α → Prop) : Prog α → Prop
  | .ret a => Q a
  | .call s k => SysGood dp s ∧ ∀ w, LW dp w → LexSem dp Q (k (step w s).1)

theorem LexSem.run {α : Type} (dp : Path) (Q : α → Prop) : ∀ (p : Prog α) (w : World), LexSem dp Q p → LW dp w →
    Confined dp w.fs (p.run w).2.fs ∧ LW dp (p.run w).2 ∧ Q (p.run w).1
  | .ret a, w, h, hw => ⟨Confined.refl _ _, hw, h⟩
  | .call s k, w, h, hw => by
    have hs := step_good dp w s hw h.1
    have := LexSem.run dp Q (k (step w s).1) (step w s).2 (h.2 w hw) hs.2
    exact ⟨Confined.trans hs.1 this.1, this.2⟩

theorem LexSem.bind {α β : Type} (dp : Path) {Q : α → Prop} {R : β → Prop} :
    ∀ (m : Prog α) (f : α → Prog β), LexSem dp Q m → (∀ a, Q a → LexSem dp R (f a)) → LexSem dp R (m.bind f)
  | .ret a, _, hm, hf => hf a hm
  | .call s k, f, hm, hf => ⟨hm.1, fun w hw => LexSem.bind dp (k (step w s).1) f (hm.2 w hw) hf⟩

theorem LexSem.mono {α : Type} (dp : Path) {Q R : α → Prop} (h : ∀ a, Q a → R a) :
    ∀ (p : Prog α), LexSem dp Q p → LexSem dp R p
  | .ret a, hp => h a hp
  | .call s k, hp => ⟨hp.1, fun w hw => LexSem.mono dp h (k (step w s).1) (hp.2 w hw)⟩

def AnsLW (dp : Path) (s : Sys) (r : Res) : Prop := ∃ w, LW dp w ∧ r = (step w s).1

theorem LexSem.of_ans {α : Type} (dp : Path) {G : Sys → Prop} {Q : α → Prop} (hG : ∀ s, G s → SysGood dp s) :
    ∀ (p : Prog α), p.Sem G (AnsLW dp) Q → LexSem dp Q p
  | .ret _, h => h
  | .call s k, h => ⟨hG s h.1, fun w hw => LexSem.of_ans dp hG (k (step w s).1) (h.2 _ ⟨w, hw, rfl⟩)⟩

theorem LexSem.of_calls {α : Type} (dp : Path) {G : Sys → Prop} (hG : ∀ s, G s → SysLex dp s) (p : Prog α)
    (h : p.Calls G) : LexSem dp (fun _ => True) p :=
  LexSem.of_ans dp (fun s hs => Or.inl (hG s hs)) p (h.sem fun _ h => h)

end GA
