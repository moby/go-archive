import GA.M.TreeDiff
import GA.Proofs.ListLemmas
/-
  The per-path reference diff (`belowSpec`, `selfSpec`) and the proof that `addChanges` reports
  exactly it (`main`, stated as `NodeOK`; `KidsOK` for the children's loop), for every pair of trees and every order
  of the children lists.

  The two mutually recursive functions first get equations of their own: a call is the entries at its own
  path, then the children's (`addChanges_eq`); the loops over the children are, for distinct new names, one
  segment per new child, then a deletion for every old child without a new namesake (`childChanges_eq`).
-/
namespace GA.TreeDiff
open GA

def NodupNames (l : List Info) : Prop := (l.map Info.name).Nodup

mutual
/-- sibling names are distinct at every level (children come out of a Go map keyed by name) -/
def Info.WF : Info → Prop
  | .mk _ _ ch => NodupNames ch ∧ listWF ch
def listWF : List Info → Prop
  | [] => True
  | c :: cs => c.WF ∧ listWF cs
end

theorem Info.induction {motive : Info → Prop}
    (step : ∀ name st ch, (∀ c ∈ ch, motive c) → motive (.mk name st ch)) (t : Info) : motive t :=
  Info.rec (motive_1 := motive) (motive_2 := fun l => ∀ c ∈ l, motive c) step (fun _ h => nomatch h)
    (fun _ _ hc hcs _ hx => by
      rcases List.mem_cons.mp hx with rfl | hx
      · exact hc
      · exact hcs _ hx) t

theorem NodupNames.pairwise {l : List Info} (h : NodupNames l) : l.Pairwise (fun a b => a.name ≠ b.name) := by
  rw [NodupNames, List.nodup_iff_pairwise_ne, List.pairwise_map] at h
  exact h

theorem listWF_iff : ∀ {l : List Info}, listWF l ↔ ∀ c ∈ l, c.WF
  | [] => by simp [listWF]
  | c :: cs => by simp [listWF, listWF_iff (l := cs)]

theorem WF_iff (t : Info) : t.WF ↔ NodupNames t.children ∧ ∀ c ∈ t.children, c.WF := by
  cases t
  simp only [Info.WF, Info.children, listWF_iff]

theorem findChild_cons (c : Info) (cs : List Info) (n : Str) :
    findChild (c :: cs) n = if c.name = n then some c else findChild cs n := by
  simp only [findChild, List.find?_cons]
  by_cases h : c.name = n <;> simp [h]

theorem findChild_name {l : List Info} {n : Str} {o : Info} (h : findChild l n = some o) : o.name = n := by
  simpa using List.find?_some h

theorem findChild_mem {l : List Info} {n : Str} {o : Info} (h : findChild l n = some o) : o ∈ l :=
  List.mem_of_find?_eq_some h

theorem findChild_eq_none {l : List Info} {n : Str} : findChild l n = none ↔ n ∉ l.map Info.name := by
  simp [findChild]

theorem findChild_of_mem : ∀ {l : List Info} {c : Info}, NodupNames l → c ∈ l → findChild l c.name = some c
  | d :: ds, c, hnd, hc => by
    obtain ⟨hd, hds⟩ := List.nodup_cons.mp hnd
    rw [findChild_cons]
    rcases List.mem_cons.mp hc with rfl | hc
    · rw [if_pos rfl]
    · rw [if_neg (fun e : d.name = c.name => hd (e ▸ List.mem_map_of_mem hc))]
      exact findChild_of_mem hds hc

theorem findChild_dropChild_ne (l : List Info) {a n : Str} (h : n ≠ a) :
    findChild (dropChild l a) n = findChild l n := by
  simp only [findChild, dropChild, List.find?_filter]
  congr 1
  funext o
  by_cases e : o.name = n <;> simp [e, h]

theorem dropChild_of_none {l : List Info} {a : Str} (h : findChild l a = none) : dropChild l a = l := by
  rw [findChild_eq_none] at h
  exact List.filter_eq_self.mpr (fun o ho => by simpa using fun e : o.name = a => h (e ▸ List.mem_map_of_mem ho))

/-- the node at a relative path, the node itself at the empty one: unlike `findIn`, which has three clauses
    and none for the empty path, it composes (`look_append`) -/
def look (t : Info) : List Str → Option Info
  | [] => some t
  | c :: r => (findChild t.children c).bind (look · r)

theorem findIn_cons : ∀ (r : List Str) (l : List Info) (c : Str), findIn l (c :: r) = (findChild l c).bind (look · r)
  | [], l, c => by cases h : findChild l c <;> simp [findIn, look, h]
  | c2 :: r, l, c => by
    cases h : findChild l c with
    | none => simp [findIn, h]
    | some n => simp only [findIn, h, Option.bind_some, look, findIn_cons r]

theorem findIn_children (t : Info) {p : List Str} (h : p ≠ []) : findIn t.children p = look t p := by
  cases p with
  | nil => exact absurd rfl h
  | cons c r => exact findIn_cons r _ c

theorem look_append (t : Info) (a s : List Str) : look t (a ++ s) = (look t a).bind (look · s) := by
  induction a generalizing t with
  | nil => rfl
  | cons c a ih =>
    cases h : findChild t.children c with
    | none => simp [look, h]
    | some n => simp [look, h, ih]

theorem look_induct {P : Info → Prop} (hP : ∀ n, P n → ∀ c ∈ n.children, P c) :
    ∀ (p : List Str) {t n : Info}, P t → look t p = some n → P n
  | [], _, _, ht, h => by cases h; exact ht
  | c :: r, t, n, ht, h => by
    obtain ⟨m, hm, hn⟩ := Option.bind_eq_some_iff.mp h
    exact look_induct hP r (hP t ht m (findChild_mem hm)) hn

def selfSpec (path : List Str) (info : Info) (old : Option Info) (marked : Bool) (k : CKind) : Prop :=
  (k = .add ∧ old = none) ∨
  (k = .modify ∧ old.isSome = true ∧ dirAt path info.st = true ∧ marked = false ∧ path ≠ [] ∧
     childChanges path info.children (oldKids (dirAt path info.st) old) ≠ [])

def ownChanges (path : List Str) (info : Info) (old : Option Info) (marked : Bool) : List Change :=
  if old.isNone then [{ path := path, kind := .add }]
  else if !(childChanges path info.children (oldKids (dirAt path info.st) old)).isEmpty && dirAt path info.st &&
      !marked && !path.isEmpty then [{ path := path, kind := .modify }]
  else []

theorem addChanges_eq (path : List Str) (info : Info) (old : Option Info) (marked : Bool) :
    addChanges path info old marked =
      ownChanges path info old marked ++ childChanges path info.children (oldKids (dirAt path info.st) old) := by
  cases info
  rw [addChanges.eq_def]
  cases old <;> simp only [ownChanges, Info.children, Info.st, Option.isNone_none, Option.isNone_some, Bool.or_true,
    Bool.or_false, Bool.not_true, Bool.and_false, Bool.false_and, Bool.false_eq_true, if_false, if_true,
    List.nil_append]
  split <;> rename_i h <;> simp only [h, if_true, Bool.false_eq_true, if_false, List.cons_append, List.nil_append]

theorem mem_ownChanges {path : List Str} {info : Info} {old : Option Info} {marked : Bool} {q : List Str} {k : CKind} :
    ({ path := q, kind := k } : Change) ∈ ownChanges path info old marked ↔ q = path ∧ selfSpec path info old marked k := by
  unfold selfSpec
  fun_cases ownChanges path info old marked
  case case1 h0 => simp [Option.isNone_iff_eq_none.mp h0]
  case case2 h0 h =>
    simp only [Bool.and_eq_true, Bool.not_eq_true', List.isEmpty_eq_false_iff] at h
    rw [List.mem_singleton, Change.mk.injEq]
    exact ⟨fun ⟨e1, e2⟩ => ⟨e1, Or.inr ⟨e2, Option.isSome_iff_ne_none.mpr fun e => h0 (e ▸ rfl), h.1.1.2, h.1.2, h.2, h.1.1.1⟩⟩,
      fun ⟨e1, hs⟩ => ⟨e1, (hs.resolve_left fun h' => h0 (h'.2 ▸ rfl)).1⟩⟩
  case case3 h0 h =>
    simp only [Bool.and_eq_true, Bool.not_eq_true', List.isEmpty_eq_false_iff] at h
    exact ⟨nofun, fun ⟨_, hs⟩ =>
      have ⟨_, _, h1, h2, h3, h4⟩ := hs.resolve_left fun h' => h0 (h'.2 ▸ rfl)
      absurd ⟨⟨⟨h4, h1⟩, h2⟩, h3⟩ h⟩

theorem pairwise_ownChanges (R : Change → Change → Prop) (path : List Str) (info : Info) (old : Option Info) (marked : Bool) :
    (ownChanges path info old marked).Pairwise R := by
  fun_cases ownChanges path info old marked
  case case3 => exact List.Pairwise.nil
  all_goals exact List.pairwise_singleton R _

/-- the parent's loop reports a matched child as modified when its stat or capability differs -/
def markedOf (oo : Option Info) (n : Info) : Bool :=
  match oo with
  | some o => differs o.st n.st
  | none => false

def childSeg (path : List Str) (olds : List Info) (c : Info) : List Change :=
  (if markedOf (findChild olds c.name) c then [{ path := path ++ [c.name], kind := .modify }] else []) ++
    addChanges (path ++ [c.name]) c (findChild olds c.name) (markedOf (findChild olds c.name) c)

theorem childChanges_cons (path : List Str) (c : Info) (cs olds : List Info) :
    childChanges path (c :: cs) olds = childSeg path olds c ++ childChanges path cs (dropChild olds c.name) := by
  rw [childChanges.eq_2]
  unfold childSeg
  cases h : findChild olds c.name with
  | some o => simp only [markedOf, List.append_assoc]; rfl
  | none => simp [markedOf, dropChild_of_none h]

theorem childChanges_eq (path : List Str) : ∀ (news olds : List Info), NodupNames news →
    childChanges path news olds = news.flatMap (childSeg path olds) ++
      (olds.filter (fun o => (findChild news o.name).isNone)).map (fun o => { path := path ++ [o.name], kind := .delete })
  | [], olds, _ => by
    rw [childChanges.eq_1, List.flatMap_nil, List.nil_append]
    exact congrArg _ (List.filter_eq_self.mpr (fun _ _ => rfl)).symm
  | c :: cs, olds, h => by
    obtain ⟨hc, hcs⟩ := List.nodup_cons.mp h
    rw [childChanges_cons, childChanges_eq path cs _ hcs, List.flatMap_cons, List.append_assoc]
    congr 2
    · -- an old child is dropped only after the new child of its name
      refine flatMap_ext _ _ cs (fun n hn => ?_)
      have hne : n.name ≠ c.name := fun e => hc (e ▸ List.mem_map_of_mem hn)
      unfold childSeg
      rw [findChild_dropChild_ne olds hne]
    · congr 1
      unfold dropChild
      rw [List.filter_filter]
      refine List.filter_congr (fun o _ => ?_)
      rw [findChild_cons]
      by_cases e : c.name = o.name
      · simp [e]
      · simpa [e] using fun _ e' => e e'.symm

theorem mem_childChanges {path : List Str} {news olds : List Info} (h : NodupNames news) {x : Change} :
    x ∈ childChanges path news olds ↔
      (∃ c ∈ news, x ∈ childSeg path olds c) ∨
      (∃ o ∈ olds, findChild news o.name = none ∧ x = { path := path ++ [o.name], kind := .delete }) := by
  rw [childChanges_eq path news olds h]
  simp only [List.mem_append, List.mem_flatMap, List.mem_map, List.mem_filter, Option.isNone_iff_eq_none]
  refine or_congr Iff.rfl ⟨?_, ?_⟩
  · rintro ⟨o, ⟨ho, hn⟩, rfl⟩
    exact ⟨o, ho, hn, rfl⟩
  · rintro ⟨o, ho, hn, rfl⟩
    exact ⟨o, ⟨ho, hn⟩, rfl⟩

/-- what is reported strictly below a node, decided by walking the relative path `r` through both
    children lists -/
def belowSpec : List Str → List Info → List Info → List Str → CKind → Prop
  | _, _, _, [], _ => False
  | path, news, olds, c :: r, k =>
    match findChild news c with
    | some n =>
      (r = [] ∧ ((k = .modify ∧ markedOf (findChild olds c) n = true) ∨
          selfSpec (path ++ [c]) n (findChild olds c) (markedOf (findChild olds c) n) k)) ∨
        belowSpec (path ++ [c]) n.children (oldKids (dirAt (path ++ [c]) n.st) (findChild olds c)) r k
    | none => (findChild olds c).isSome = true ∧ r = [] ∧ k = .delete

theorem belowSpec_nil {path : List Str} {news olds : List Info} {k : CKind} : ¬ belowSpec path news olds [] k := by
  simp [belowSpec]

theorem belowSpec_some {path : List Str} {news olds : List Info} {c : Str} {n : Info} (h : findChild news c = some n)
    (r : List Str) (k : CKind) :
    belowSpec path news olds (c :: r) k ↔
      ((r = [] ∧ ((k = .modify ∧ markedOf (findChild olds c) n = true) ∨
          selfSpec (path ++ [c]) n (findChild olds c) (markedOf (findChild olds c) n) k)) ∨
        belowSpec (path ++ [c]) n.children (oldKids (dirAt (path ++ [c]) n.st) (findChild olds c)) r k) := by
  simp only [belowSpec, h]

theorem belowSpec_missing {path : List Str} {news olds : List Info} {c : Str} (r : List Str) (k : CKind)
    (h : findChild news c = none) :
    belowSpec path news olds (c :: r) k ↔ ((findChild olds c).isSome = true ∧ r = [] ∧ k = .delete) := by
  simp only [belowSpec, h]

def NodeOK (info : Info) : Prop :=
  ∀ (path : List Str) (old : Option Info) (marked : Bool) (q : List Str) (k : CKind),
    ({ path := q, kind := k } : Change) ∈ addChanges path info old marked ↔
      ((q = path ∧ selfSpec path info old marked k) ∨
       ∃ r, q = path ++ r ∧ belowSpec path info.children (oldKids (dirAt path info.st) old) r k)

def KidsOK (news : List Info) : Prop :=
  ∀ (path : List Str) (olds : List Info) (q : List Str) (k : CKind),
    ({ path := q, kind := k } : Change) ∈ childChanges path news olds ↔
      ∃ r, q = path ++ r ∧ belowSpec path news olds r k

theorem mem_childSeg {c : Info} (hc : NodeOK c) {news : List Info} (hf : findChild news c.name = some c)
    (path : List Str) (olds : List Info) (q : List Str) (k : CKind) :
    ({ path := q, kind := k } : Change) ∈ childSeg path olds c ↔
      ∃ r, q = path ++ c.name :: r ∧ belowSpec path news olds (c.name :: r) k := by
  unfold childSeg
  rw [List.mem_append, hc]
  constructor
  · rintro (h | ⟨rfl, hs⟩ | ⟨r, rfl, hs⟩)
    · split at h
      · cases List.mem_singleton.mp h
        exact ⟨[], rfl, (belowSpec_some hf _ _).mpr (Or.inl ⟨rfl, Or.inl ⟨rfl, ‹_›⟩⟩)⟩
      · cases h
    · exact ⟨[], rfl, (belowSpec_some hf _ _).mpr (Or.inl ⟨rfl, Or.inr hs⟩)⟩
    · exact ⟨r, by simp, (belowSpec_some hf _ _).mpr (Or.inr hs)⟩
  · rintro ⟨r, rfl, hs⟩
    rcases (belowSpec_some hf r k).mp hs with ⟨rfl, ⟨rfl, hm⟩ | hs⟩ | hs
    · exact Or.inl (by simp [hm])
    · exact Or.inr (Or.inl ⟨rfl, hs⟩)
    · exact Or.inr (Or.inr ⟨r, by simp, hs⟩)

theorem kidsOK {news : List Info} (hnd : NodupNames news) (h : ∀ c ∈ news, NodeOK c) : KidsOK news := by
  intro path olds q k
  rw [mem_childChanges hnd]
  constructor
  · rintro (⟨c, hc, hx⟩ | ⟨o, ho, hno, hx⟩)
    · obtain ⟨r, hq, hs⟩ := (mem_childSeg (h c hc) (findChild_of_mem hnd hc) path olds q k).mp hx
      exact ⟨c.name :: r, hq, hs⟩
    · injection hx with hq hk
      refine ⟨[o.name], hq, (belowSpec_missing [] k hno).mpr ⟨?_, rfl, hk⟩⟩
      cases hf : findChild olds o.name with
      | some _ => rfl
      | none => exact absurd (List.mem_map_of_mem ho) (findChild_eq_none.mp hf)
  · rintro ⟨r, hq, hs⟩
    cases r with
    | nil => exact absurd hs belowSpec_nil
    | cons c r =>
      cases hn : findChild news c with
      | some n =>
        cases findChild_name hn
        exact Or.inl ⟨n, findChild_mem hn, (mem_childSeg (h n (findChild_mem hn)) hn path olds q k).mpr ⟨r, hq, hs⟩⟩
      | none =>
        obtain ⟨hsome, rfl, rfl⟩ := (belowSpec_missing r k hn).mp hs
        obtain ⟨o, ho⟩ := Option.isSome_iff_exists.mp hsome
        cases findChild_name ho
        exact Or.inr ⟨o, findChild_mem ho, hn, by rw [hq]⟩

/-- **`addChanges` reports exactly the per-path reference diff**, for every pair of trees whose
    sibling names are distinct, every path prefix, and every order of the children lists -/
theorem main (info : Info) : info.WF → NodeOK info := by
  induction info using Info.induction with
  | step name st ch ih =>
    intro hwf path old marked q k
    obtain ⟨hnd, hch⟩ := (WF_iff _).mp hwf
    rw [addChanges_eq, List.mem_append, mem_ownChanges]
    exact or_congr Iff.rfl (kidsOK hnd (fun c hc => ih c hc (hch c hc)) path _ q k)

theorem kidsOK_of_WF {l : List Info} (hnd : NodupNames l) (hl : ∀ c ∈ l, c.WF) : KidsOK l :=
  kidsOK hnd (fun c hc => main c (hl c hc))

theorem belowSpec_head {path : List Str} {news olds : List Info} {r : List Str} {k : CKind}
    (hs : belowSpec path news olds r k) : ∃ c, (path ++ [c]) <+: (path ++ r) := by
  cases r with
  | nil => exact absurd hs belowSpec_nil
  | cons c r => exact ⟨c, (List.prefix_append_right_inj path).mpr ⟨r, rfl⟩⟩

/-- a node its parent has already reported (Go: `info.added`) reports nothing more at its own path -/
theorem marked_below {n : Info} (hk : NodeOK n) {path : List Str} {o : Info} {x : Change}
    (hx : x ∈ addChanges path n (some o) true) : ∃ c, (path ++ [c]) <+: x.path := by
  rcases (hk path (some o) true x.path x.kind).mp hx with ⟨_, hs⟩ | ⟨r, hq, hs⟩
  · rcases hs with ⟨_, h⟩ | ⟨_, _, _, h, _⟩ <;> cases h
  · exact hq ▸ belowSpec_head hs

theorem seg_prefix {c : Info} (hk : NodeOK c) {path : List Str} {olds : List Info} {x : Change}
    (hx : x ∈ childSeg path olds c) : (path ++ [c.name]) <+: x.path := by
  have hf : findChild [c] c.name = some c := by rw [findChild_cons, if_pos rfl]
  obtain ⟨r, hq, _⟩ := (mem_childSeg hk hf path olds x.path x.kind).mp hx
  exact hq ▸ (List.prefix_append_right_inj path).mpr ⟨r, rfl⟩

end GA.TreeDiff
