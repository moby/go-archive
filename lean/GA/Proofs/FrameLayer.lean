import GA.Proofs.FrameUnpack
import GA.Proofs.LexLayer
/-
  Layer apply and the frame: every mutating call of `unpackLayerP` names the path of an entry, the source of a
  hard-link entry, the target of a whiteout, the directory of an opaque marker, the staging directory — or something
  beneath one of these, or a directory on the way that it found missing (`touchedOf` per entry, `touchedL` for the
  layer).  One iteration of the loop touches only what its own entry names and the staging directory (`fr_iterL`: read
  off the walk of LayerWalk.lean, `StageOn.fr` and `EntryOn.fr` giving call by call the reason why it is covered), and
  these frames compose along the fold of iterations (`layerRun_frame`, over `touchedIs`, which lies within `touchedL`:
  `touchedIs_sub`).  What this needs of the loop state: `FSt0` (the staging directory is unset or `dest/tmpName`, what
  is staged is regular files); `FStOK` asks in addition that the deferred directories are covered.
-/
namespace GA

def touchedOf (dest : Str) (e : Entry) : List Path :=
  let n := clean e.name
  let p := join dest n
  let b := base p
  [pathComps p] ++
  (if e.typ = .link then [pathComps (join dest e.linkname)] else []) ++
  (if hasPrefix n whMetaPrefix && hasPrefix n whLinkDir && e.typ == .reg
    then [pathComps (join (join dest tmpName) (base n))] else []) ++
  (if b = whOpaqueDir then [pathComps (dir p)]
   else if hasPrefix b whPrefix then [pathComps (join (dir p) (b.drop whPrefix.length))] else [])

def touchedL (dest : Str) (es : List Entry) : List Path :=
  pathComps (join dest tmpName) :: es.flatMap (touchedOf dest)

structure FStOK (T : List Path) (dest : Str) (st : LState) : Prop where
  dirs : ∀ e ∈ st.dirs, FArg T (join dest e.name)
  tmp : st.tmp = [] ∨ st.tmp = join dest tmpName
  staged : ∀ x ∈ st.staged, x.2.typ = .reg

structure FSt0 (dest : Str) (st : LState) : Prop where
  tmp : st.tmp = [] ∨ st.tmp = join dest tmpName
  staged : ∀ x ∈ st.staged, x.2.typ = .reg

theorem FStOK.to0 {T : List Path} {dest : Str} {st : LState} (h : FStOK T dest st) : FSt0 dest st := ⟨h.tmp, h.staged⟩

theorem farg_of_mem {T : List Path} {s : Str} (hs : CleanAbs s) (h : pathComps s ∈ T) : FArg T s :=
  ⟨cov_self h, hs.no_dotdot⟩

theorem fr_layerFinish (dp : Path) (T : List Path) (fs0 : FS) (dest : Str) (st : LState) (out : Out) (hd : CleanAbs dest)
    (htmp : pathComps (join dest tmpName) ∈ T) (hst : FSt0 dest st) :
    FrSem dp T fs0 (fun _ => True) (layerFinish dest st out) :=
  FrSem.of_calls dp T fs0 (fun _ ⟨hne, hs⟩ => hs ▸ hst.tmp.resolve_left hne ▸ farg_of_mem (join_cleanAbs dest _ hd) htmp) _
    (calls_layerFinish dest st out)

theorem touchedOf_sub {dest : Str} {es : List Entry} {e : Entry} (h : e ∈ es) {x : Path} (hx : x ∈ touchedOf dest e) :
    x ∈ touchedL dest es := by
  unfold touchedL
  exact List.mem_cons_of_mem _ (List.mem_flatMap.mpr ⟨e, h, hx⟩)

section
variable {dp : Path} {T : List Path} {fs0 : FS} {dest : Str} {o : Opts} {e : Entry} {st st' : LState} {s : Sys}
  (hd : CleanAbs dest)
include hd

omit hd in
theorem StagingAt.eq_fr {t : Str} (hst : FSt0 dest st) (h : StagingAt (AnsFr dp T fs0) dest st t) : t = join dest tmpName :=
  h.eq (fun _ ⟨w, _, _, hr⟩ => ⟨w, hr.symm⟩) hst.tmp

omit hd in
theorem Staged.fst0 {n : Str} (hst : FSt0 dest st) (h : Staged (AnsFr dp T fs0) dest e n st st') : FSt0 dest st' := by
  cases h with
  | skip => exact hst
  | staged hc ht =>
    refine ⟨Or.inr (ht.eq_fr hst), fun y hy => ?_⟩
    rcases List.mem_cons.mp hy with rfl | hy
    · exact staged_reg hc
    · exact hst.staged y (List.mem_filter.mp hy).1

theorem StageOn.fr (htmp : pathComps (join dest tmpName) ∈ T) (hTe : ∀ x ∈ touchedOf dest e, x ∈ T) (hst : FSt0 dest st) :
    StageOn (AnsFr dp T fs0) dest e (clean e.name) st s → SysFr T fs0 s
  | .mkdtemp _ => (farg_of_mem (join_cleanAbs dest _ hd) htmp).toC
  | .create hc ht hs => by
    have hreg := staged_reg hc
    rw [ht.eq_fr hst] at hs
    exact hs.fr (farg_of_mem (join_cleanAbs _ _ (join_cleanAbs dest _ hd)) (hTe _ (by simp only [touchedOf]; rw [if_pos hc]; simp)))
      hd (fun h => nomatch hreg.symm.trans h) (fun h => nomatch hreg.symm.trans h)
  | .cleanup _ ht => by
    rw [ht.eq_fr hst]
    exact farg_of_mem (join_cleanAbs dest _ hd) htmp

omit hd in
theorem IterEnd.fst0 {r : LayerRes} (hst : FSt0 dest st) (h : IterEnd dest e st r) : FSt0 dest (resSt r) :=
  ⟨h.tmp ▸ hst.tmp, h.staged ▸ hst.staged⟩

theorem EntryOn.fr {p : Str} (hes : e.typ ≠ .sym) (hTe : ∀ x ∈ touchedOf dest e, x ∈ T) (hst : FSt0 dest st)
    (hg : guardName dest (clean e.name) = .ok p) (h : EntryOn (AnsFr dp T fs0) dest o e st p s) : SysFr T fs0 s := by
  obtain ⟨rfl, hpc, _⟩ := guardName_ok dest _ p hd hg
  have hp : FArg T (join dest (clean e.name)) := farg_of_mem hpc (hTe _ (by simp [touchedOf]))
  have hdrc := (dir_cleanAbs hpc).1
  cases h with
  | look r => cases r <;> trivial
  | implied h => exact h.fr_implied hd (hTe _ (by simp [touchedOf]))
  | clear hop _ ht hit _ =>
    obtain ⟨w, hw, _, ht⟩ := ht
    have hq := listTree_items dp w hw _ hdrc _ ht.symm _ hit
    exact ⟨⟨_, hTe _ (by simp only [touchedOf]; simp [hop]), hq.2.1⟩, hq.1.no_dotdot⟩
  | whiteout hwh hno _ _ =>
    exact farg_of_mem (join_cleanAbs _ _ hdrc) (hTe _ (by simp only [touchedOf]; simp [hwh, hno]))
  | replace _ _ _ => exact hp
  | @create src src' _ hsrc hrm hs =>
    have hty : src'.typ = src.typ := remapE_typ o src src' hrm
    -- a staged source is a regular file; any other source is the entry itself
    refine hs.fr hp hd (fun hl => ?_) ?_ <;> rcases hsrc with rfl | ⟨x, hx, hx'⟩
    · rw [remapE_linkname o _ src' hrm]; exact hTe _ (by simp [touchedOf, hty ▸ hl])
    · rw [hty, hx', hst.staged x hx] at hl; cases hl
    · exact hty ▸ hes
    · rw [hty, hx', hst.staged x hx]; nofun

end

theorem fr_iterL_dirs (dp : Path) (T : List Path) (fs0 : FS) (dest : Str) (o : Opts) (hd : CleanAbs dest)
    (e : Entry) (st0 : LState) (hes : e.typ ≠ .sym) (htmp : pathComps (join dest tmpName) ∈ T)
    (hTe : ∀ x ∈ touchedOf dest e, x ∈ T) (hst0 : FSt0 dest st0) :
    FrSem dp T fs0 (fun r => FSt0 dest (resSt r) ∧ ∀ d ∈ (resSt r).dirs, d ∈ st0.dirs ∨ d.name = clean e.name)
      (layerIterP dest o e st0) := by
  have hst1 : FSt0 dest { st0 with size := st0.size + e.size } := ⟨hst0.tmp, hst0.staged⟩
  refine FrSem.of_ans dp T fs0 (fun _ h => h) _ ((walk_layerIter dest o e st0 (fun s h => h.fr hd htmp hTe hst1)
    fun st p hs hg s h => h.fr hd hes hTe (hs.fst0 hst1) hg).imp fun r ⟨st, hs, he⟩ => ⟨he.fst0 (hs.fst0 hst1), fun d hdm => ?_⟩)
  rcases he.dirs with h | ⟨h, _⟩ <;> rw [h, hs.dirs] at hdm
  · exact Or.inl hdm
  · exact (List.mem_cons.mp hdm).elim (fun h => Or.inr (h ▸ rfl)) Or.inl

/-- **one iteration of `UnpackLayer` touches only what its entry names**, and the staging directory -/
theorem fr_iterL (dp : Path) (T : List Path) (fs0 : FS) (dest : Str) (o : Opts) (hd : CleanAbs dest)
    (e : Entry) (st0 : LState) (hes : e.typ ≠ .sym) (htmp : pathComps (join dest tmpName) ∈ T)
    (hTe : ∀ x ∈ touchedOf dest e, x ∈ T) (hst0 : FSt0 dest st0) :
    FrSem dp T fs0 (fun r => FSt0 dest (resSt r)) (layerIterP dest o e st0) :=
  FrSem.mono dp T fs0 (fun _ h => h.1) _ (fr_iterL_dirs dp T fs0 dest o hd e st0 hes htmp hTe hst0)

/-- **the loop of `UnpackLayer` touches only what the layer names** (no symbolic-link entries) -/
theorem fr_layerLoop (dp : Path) (T : List Path) (fs0 : FS) (dest : Str) (o : Opts) (hd : CleanAbs dest)
    (htmp : pathComps (join dest tmpName) ∈ T) :
    ∀ (es : List Entry) (st : LState), (∀ e ∈ es, e.typ ≠ .sym) → (∀ e ∈ es, ∀ x ∈ touchedOf dest e, x ∈ T) →
      FStOK T dest st → FrSem dp T fs0 (fun _ => True) (layerLoop dest o es st)
  | [], st, _, _, hst => by
    rw [layerLoop]
    exact FrSem.bind dp T fs0 _ _ (fr_dirTimes dp T fs0 dest _ fun e he => hst.dirs e (by simpa using he))
      fun r _ => fr_layerFinish dp T fs0 dest st r hd htmp hst.to0
  | e :: es, st0, hsym, hT, hst0 => by
    have hTe := hT e (by simp)
    rw [layerLoop_cons]
    refine FrSem.bind dp T fs0 _ _ (fr_iterL_dirs dp T fs0 dest o hd e st0 (hsym e (by simp)) htmp hTe hst0.to0)
      fun r ⟨h0, hdirs⟩ => ?_
    -- the one new element of the deferred list is the entry's own path, which the layer names
    have hst : FStOK T dest (resSt r) := ⟨fun d hdm => by
      rcases hdirs d hdm with h | h
      · exact hst0.dirs d h
      · rw [h]; exact farg_of_mem (join_cleanAbs dest _ hd) (hTe _ (by simp [touchedOf])), h0.tmp, h0.staged⟩
    match r, hst with
    | .error (out, st), hst => exact fr_layerFinish dp T fs0 dest st out hd htmp hst.to0
    | .ok st, hst =>
      exact fr_layerLoop dp T fs0 dest o hd htmp es st (fun x hx => hsym x (by simp [hx]))
        (fun x hx => hT x (by simp [hx])) hst

/-- `archive.ApplyLayer` (plain) into an absolute destination touches only what the layer names -/
theorem fr_applyLayer (fs0 : FS) (dest : Str) (o : Opts) (es : List Entry) (oldUmask : Nat) (habs : isAbs dest = true)
    (hsym : ∀ e ∈ es, e.typ ≠ .sym) :
    FrSem (pathComps (clean dest)) (touchedL (clean dest) es) fs0 (fun _ => True) (applyLayerP dest o es oldUmask) := by
  unfold applyLayerP unpackLayerP
  refine FrSem.bind _ _ _ _ _ (fr_info _ _ _ (.setUmask 0) trivial) ?_
  intro _ _
  refine FrSem.bind _ _ _ (Q := fun _ => True) _ _ ?_ ?_
  · exact fr_layerLoop _ _ fs0 (clean dest) o (clean_cleanAbs dest habs) (by simp [touchedL]) es {} hsym
      (fun e he x hx => touchedOf_sub he hx) ⟨by simp, Or.inl rfl, by simp⟩
  · intro r _
    exact FrSem.bind _ _ _ _ _ (fr_info _ _ _ (.setUmask oldUmask) trivial) fun _ _ => trivial

def touchedI (dest : Str) (e : Entry) : List Path := pathComps (join dest tmpName) :: touchedOf dest e

def touchedIs (dest : Str) (es : List Entry) : List Path := es.flatMap (touchedI dest)

theorem touchedIs_cons (dest : Str) (e : Entry) (es : List Entry) :
    touchedIs dest (e :: es) = touchedI dest e ++ touchedIs dest es := by
  simp [touchedIs]

theorem touchedIs_sub (dest : Str) (es : List Entry) (t : Path) (h : t ∈ touchedIs dest es) : t ∈ touchedL dest es := by
  unfold touchedIs at h
  obtain ⟨e, he, ht⟩ := List.mem_flatMap.mp h
  unfold touchedI at ht
  rcases List.mem_cons.mp ht with rfl | ht
  · simp [touchedL]
  · exact touchedOf_sub he ht

/-- **the fold of iterations keeps the lexical invariant, the state invariants, and the composed frame** -/
theorem layerRun_frame (dp : Path) (dest : Str) (o : Opts) (hd : CleanAbs dest) (hdp : pathComps dest = dp) :
    ∀ (es : List Entry) (st : LState) (w : World), (∀ e ∈ es, e.typ ≠ .sym) → LW dp w →
    LStOK dp dest st → FSt0 dest st →
    Framed (touchedIs dest es) w.fs (layerRun dest o es st w).2.fs ∧ LW dp (layerRun dest o es st w).2 ∧
      LStOK dp dest (resSt (layerRun dest o es st w).1) ∧ FSt0 dest (resSt (layerRun dest o es st w).1)
  | [], st, w, _, hw, hl, hf => ⟨Framed.refl _ _, hw, hl, hf⟩
  | e :: es, st, w, hsym, hw, hls, hfs => by
    have hes : e.typ ≠ .sym := hsym e (by simp)
    have hl := lex_iterL dp dest o hd hdp e st hes hls
    have hf := fr_iterL dp (touchedI dest e) w.fs dest o hd e st hes (by simp [touchedI])
      (fun x hx => by simp [touchedI, hx]) hfs
    have h1 := FrSem.run dp (touchedI dest e) w.fs hw.inv.fresh _ _ _ w hl hf hw (Framed.refl _ _)
    have h2 := LexSem.run dp _ _ w hl hw
    simp only [layerRun]
    cases h : (layerIterP dest o e st).run w with
    | mk r w' =>
      rw [h] at h1 h2
      cases r with
      | error x =>
        simp only
        rw [touchedIs_cons]
        exact ⟨Framed.comp h1.1 (Framed.refl (touchedIs dest es) w'.fs), h2.2.1, h2.2.2, h1.2⟩
      | ok st' =>
        simp only
        have ih := layerRun_frame dp dest o hd hdp es st' w' (fun x hx => hsym x (by simp [hx])) h2.2.1 h2.2.2 h1.2
        rw [touchedIs_cons]
        exact ⟨Framed.comp h1.1 ih.1, ih.2⟩

end GA
