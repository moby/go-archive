import GA.Proofs.LayerPost
/-
  The opaque-marker walk never removes what the layer itself has provided — as long as every directory between
  the marker's directory and the provided path was provided too (finding D7 is the case in which one is not).
  Proved once (`opaqueWalk_stable`, `iter_opaque_stable`) for any property `K` of the world at `P` that every frame
  not covering `P` keeps (`StableAt P K`); the instances are the name `P` itself and `Kept`: the object under its
  one name `P`, all but its modification time.
-/
namespace GA

def Kept (P : Path) (i : Ino) (n0 : Inode) (w : World) : Prop :=
  w.fs.lookup P = some i ∧ (∀ q, w.fs.lookup q = some i → q = P) ∧ (w.fs.inode i).map eraseM = some (eraseM n0)

theorem Kept.framed {T : List Path} {w w' : World} {P : Path} {i : Ino} {n0 : Inode} (hk : Kept P i n0 w)
    (hf : Framed T w.fs w'.fs) (hnc : ¬ Cov T P) : Kept P i n0 w' := by
  obtain ⟨h1, h2, h3, _⟩ := hf.sole hk.1 hk.2.1 hnc
  exact ⟨h1, h2, h3.trans hk.2.2⟩

def StableAt (P : Path) (K : World → Prop) : Prop :=
  ∀ (T : List Path) (w w' : World), Framed T w.fs w'.fs → ¬ Cov T P → K w → K w'

theorem stableAt_name (P : Path) (i : Ino) : StableAt P (fun w => w.fs.lookup P = some i) :=
  fun _ _ _ hf hc h => hf.names_keep P i h hc

theorem stableAt_kept (P : Path) (i : Ino) (n0 : Inode) : StableAt P (Kept P i n0) :=
  fun _ _ _ hf hc h => h.framed hf hc

section
variable {P : Path} {K : World → Prop} (hK : StableAt P K) (dp : Path)
include hK

theorem removeAll_stable (w : World) (hw : LW dp w) (q : Str) (hq : LexArg dp q)
    (hs : pathComps q ≠ dp) (hl : K w) (hnp : ¬ pathComps q <+: P) :
    LW dp (step w (.removeAll q)).2 ∧ K (step w (.removeAll q)).2 := by
  have hg : SysGood dp (.removeAll q) := good_lex (s := .removeAll q) ⟨hq, hs⟩
  have hfr := step_good_frame dp [pathComps q] w.fs hw.inv.fresh w (.removeAll q) hw hg (Framed.refl _ _)
    (show FArg [pathComps q] q from ⟨⟨_, by simp, List.prefix_refl _⟩, hq.2⟩)
  refine ⟨(step_good dp w (.removeAll q) hw hg).2, hK _ _ _ hfr ?_ hl⟩
  rintro ⟨t, ht, hp⟩
  exact hnp (List.mem_singleton.mp ht ▸ hp)

theorem opaqueWalk_stable (dirS : Str) (unpacked : List Str) (hdr : dp <+: pathComps dirS)
    (hsafe : ∀ s, CleanAbs s → pathComps dirS <+: pathComps s → s ≠ dirS → pathComps s <+: P → unpacked.contains s = true) :
    ∀ (items : List (Str × Kind × Nat)) (skip : Option Nat) (w : World),
      (∀ it ∈ items, CleanAbs it.1 ∧ pathComps dirS <+: pathComps it.1 ∧ (it.1 ≠ dirS → pathComps it.1 ≠ pathComps dirS)) →
      LW dp w → K w →
      LW dp ((opaqueWalkP dirS unpacked items skip).run w).2 ∧ K ((opaqueWalkP dirS unpacked items skip).run w).2 := by
  intro items skip w
  fun_induction opaqueWalkP dirS unpacked items skip generalizing w
  case case1 => exact fun _ hw hl => ⟨hw, hl⟩
  -- an item that is passed over
  case case2 ih | case3 ih | case4 ih => exact fun h => ih w fun it hit => h it (List.mem_cons_of_mem _ hit)
  case case5 q k d _ _ _ h2 h3 ih =>
    intro h hw hl
    have hq := h (q, k, d) List.mem_cons_self
    -- a removed path is not the marker's directory, so it lies strictly beneath the destination
    have hstrict : pathComps q ≠ dp := fun e =>
      hq.2.2 h2 (e ▸ prefix_antisymm hdr (e ▸ hq.2.1))
    obtain ⟨hw1, hl1⟩ := removeAll_stable hK dp w hw q (lexArg_of hq.1 (hdr.trans hq.2.1)) hstrict hl
      fun hp => h3 (hsafe q hq.1 hq.2.1 h2 hp)
    rw [run_sys_bind]
    split
    · exact ⟨hw1, hl1⟩
    · exact ih _ (fun it hit => h it (List.mem_cons_of_mem _ hit)) hw1 hl1

/-- **one iteration for an opaque marker keeps what the layer has provided**: a property of the world at `P`
    that holds when the marker is processed holds afterwards when every path from (below) the marker's directory
    down to `P` is one this layer has unpacked — the marker's own name is not at or above `P` -/
theorem iter_opaque_stable (dest : Str) (o : Opts) (hd : CleanAbs dest) (hdp : pathComps dest = dp)
    (e : Entry) (st : LState) (w : World) (hw : LW dp w)
    (hx : e.typ ≠ .xglobal)
    (hstage : (hasPrefix (clean e.name) whMetaPrefix && hasPrefix (clean e.name) whLinkDir && e.typ == .reg) = false)
    (hskip : (hasPrefix (clean e.name) whMetaPrefix && decide (clean e.name ≠ whOpaqueDir)) = false)
    (hop : base (join dest (clean e.name)) = whOpaqueDir)
    (hl : K w)
    (hself : ¬ pathComps (join dest (clean e.name)) <+: P)
    (hsafe : ∀ s, CleanAbs s → pathComps (dir (join dest (clean e.name))) <+: pathComps s →
      s ≠ dir (join dest (clean e.name)) → pathComps s <+: P → st.unpacked.contains s = true)
    (st' : LState) (w' : World) (hrun : (layerIterP dest o e st).run w = (.ok st', w')) :
    LW dp w' ∧ K w' := by
  obtain ⟨hpc, _, w1, hw1, hF, hrun1⟩ := iterL_at_inv dp dest o hd hdp e st st' w w' hw hx hstage hskip hrun
  -- the implied parents touch only what is on the way to the marker's own name
  have hl1 : K w1 := hK _ _ _ hF (fun ⟨t, ht, hp⟩ => hself (List.mem_singleton.mp ht ▸ hp)) hl
  rw [if_pos (by rw [hop]; decide)] at hrun1
  have hdrc := (dir_cleanAbs hpc).1
  obtain ⟨hwd, rfl | ⟨items, r, hitems, hwalk⟩⟩ := layerMark_opaque_inv dest _ st' w1 w' _ hop hrun1
  · exact ⟨hw1, hl1⟩
  · have := opaqueWalk_stable hK dp _ st.unpacked (hdp ▸ within_of_isWithin hd hdrc hwd) hsafe items none w1
      (listTree_items dp w1 hw1 _ hdrc items hitems) hw1 hl1
    rwa [hwalk] at this

end

theorem removeAll_keeps_other (dp : Path) (w : World) (hw : LW dp w) (q : Str) (hq : LexArg dp q)
    (hs : pathComps q ≠ dp) (P : Path) (i : Ino) (hl : w.fs.lookup P = some i) (hnp : ¬ pathComps q <+: P) :
    LW dp (step w (.removeAll q)).2 ∧ (step w (.removeAll q)).2.fs.lookup P = some i :=
  removeAll_stable (stableAt_name P i) dp w hw q hq hs hl hnp

theorem opaqueWalk_keeps (dp : Path) (dirS : Str) (unpacked : List Str) (hdr : dp <+: pathComps dirS)
    (P : Path) (i : Ino)
    (hsafe : ∀ s, CleanAbs s → pathComps dirS <+: pathComps s → s ≠ dirS → pathComps s <+: P → unpacked.contains s = true) :
    ∀ (items : List (Str × Kind × Nat)) (skip : Option Nat) (w : World),
      (∀ it ∈ items, CleanAbs it.1 ∧ pathComps dirS <+: pathComps it.1 ∧ (it.1 ≠ dirS → pathComps it.1 ≠ pathComps dirS)) →
      LW dp w → w.fs.lookup P = some i →
      LW dp ((opaqueWalkP dirS unpacked items skip).run w).2 ∧
        ((opaqueWalkP dirS unpacked items skip).run w).2.fs.lookup P = some i :=
  opaqueWalk_stable (stableAt_name P i) dp dirS unpacked hdr hsafe

theorem opaqueWalk_kept (dp : Path) (dirS : Str) (unpacked : List Str) (hdr : dp <+: pathComps dirS)
    (P : Path) (i : Ino) (n0 : Inode)
    (hsafe : ∀ s, CleanAbs s → pathComps dirS <+: pathComps s → s ≠ dirS → pathComps s <+: P → unpacked.contains s = true) :
    ∀ (items : List (Str × Kind × Nat)) (skip : Option Nat) (w : World),
      (∀ it ∈ items, CleanAbs it.1 ∧ pathComps dirS <+: pathComps it.1 ∧ (it.1 ≠ dirS → pathComps it.1 ≠ pathComps dirS)) →
      LW dp w → Kept P i n0 w →
      LW dp ((opaqueWalkP dirS unpacked items skip).run w).2 ∧
        Kept P i n0 ((opaqueWalkP dirS unpacked items skip).run w).2 :=
  opaqueWalk_stable (stableAt_kept P i n0) dp dirS unpacked hdr hsafe

theorem iter_opaque_keeps (dp : Path) (dest : Str) (o : Opts) (hd : CleanAbs dest) (hdp : pathComps dest = dp)
    (e : Entry) (st : LState) (w : World) (hw : LW dp w)
    (hx : e.typ ≠ .xglobal)
    (hstage : (hasPrefix (clean e.name) whMetaPrefix && hasPrefix (clean e.name) whLinkDir && e.typ == .reg) = false)
    (hskip : (hasPrefix (clean e.name) whMetaPrefix && decide (clean e.name ≠ whOpaqueDir)) = false)
    (hop : base (join dest (clean e.name)) = whOpaqueDir)
    (P : Path) (i : Ino) (hl : w.fs.lookup P = some i)
    (hself : ¬ pathComps (join dest (clean e.name)) <+: P)
    (hsafe : ∀ s, CleanAbs s → pathComps (dir (join dest (clean e.name))) <+: pathComps s →
      s ≠ dir (join dest (clean e.name)) → pathComps s <+: P → st.unpacked.contains s = true)
    (st' : LState) (w' : World) (hrun : (layerIterP dest o e st).run w = (.ok st', w')) :
    LW dp w' ∧ w'.fs.lookup P = some i :=
  iter_opaque_stable (stableAt_name P i) dp dest o hd hdp e st w hw hx hstage hskip hop hl hself hsafe st' w' hrun

theorem iter_opaque_kept (dp : Path) (dest : Str) (o : Opts) (hd : CleanAbs dest) (hdp : pathComps dest = dp)
    (e : Entry) (st : LState) (w : World) (hw : LW dp w)
    (hx : e.typ ≠ .xglobal)
    (hstage : (hasPrefix (clean e.name) whMetaPrefix && hasPrefix (clean e.name) whLinkDir && e.typ == .reg) = false)
    (hskip : (hasPrefix (clean e.name) whMetaPrefix && decide (clean e.name ≠ whOpaqueDir)) = false)
    (hop : base (join dest (clean e.name)) = whOpaqueDir)
    (P : Path) (i : Ino) (n0 : Inode) (hl : Kept P i n0 w)
    (hself : ¬ pathComps (join dest (clean e.name)) <+: P)
    (hsafe : ∀ s, CleanAbs s → pathComps (dir (join dest (clean e.name))) <+: pathComps s →
      s ≠ dir (join dest (clean e.name)) → pathComps s <+: P → st.unpacked.contains s = true)
    (st' : LState) (w' : World) (hrun : (layerIterP dest o e st).run w = (.ok st', w')) :
    LW dp w' ∧ Kept P i n0 w' :=
  iter_opaque_stable (stableAt_kept P i n0) dp dest o hd hdp e st w hw hx hstage hskip hop hl hself hsafe st' w' hrun

end GA
