import GA.Proofs.FrameLayer
import GA.Proofs.UnpackLast
import GA.Proofs.LayerAll
/-
  What single iterations of `UnpackLayer` establish, and how the end of the loop (deferred directory times, removal of
  the staging directory, the umask wrapper of `ApplyLayer`) relates to the fold of iterations.  The `…_inv` lemmas
  read the run of an iteration that went on backwards: from `.run w = (.ok st', w')` to what each stage it passed must
  have found and done; for an ordinary entry that is `Written` (`EntryLink`).  A successful `ApplyLayer` is cut at one
  entry by `applyLayer_split`; `LCfg` is what holds at every cut: `LW` of the world, `LStOK` (`LexLayer`) and `FSt0`
  (`FrameLayer`) of the loop state.
-/
namespace GA

theorem layerFinish_out (dest : Str) (st : LState) (out : Out) (w : World) :
    ((layerFinish dest st out).run w).1.1 = out := by
  unfold layerFinish
  rw [Prog.bind_eq, Prog.run_bind]
  rfl

theorem layerFinish_names (dp : Path) (dest : Str) (st : LState) (out : Out) (w : World) (hw : LW dp w)
    (hst : LStOK dp dest st) (q : Path) (hq : w.fs.lookup q = none) :
    ((layerFinish dest st out).run w).2.fs.lookup q = none := by
  unfold layerFinish
  rw [Prog.bind_eq, Prog.run_bind]
  simp only [Prog.run, pure]
  split
  · rename_i hne
    rcases hst.tmp with h | ⟨hc, x, hx⟩
    · exact absurd h hne
    · obtain ⟨hl, hs⟩ := child_removable hc hx
      have hp := (removeAll_post dp w hw st.tmp hl hs).2 q
      show ((sys (Sys.removeAll st.tmp)).run w).2.fs.lookup q = none
      cases hlk : ((sys (Sys.removeAll st.tmp)).run w).2.fs.lookup q with
      | none => rfl
      | some i =>
        have := hp i hlk
        rw [hq] at this; cases this
  · exact hq

theorem layerFinish_framed (dp : Path) (dest : Str) (hd : CleanAbs dest) (st : LState) (out : Out) (w : World)
    (hw : LW dp w) (hl : LStOK dp dest st) (hf : FSt0 dest st) :
    Framed [pathComps (join dest tmpName)] w.fs ((layerFinish dest st out).run w).2.fs :=
  (FrSem.run dp [pathComps (join dest tmpName)] w.fs hw.inv.fresh _ _ _ w
    (lex_layerFinish dp dest st out hl) (fr_layerFinish dp _ w.fs dest st out hd (by simp) hf) hw (Framed.refl _ _)).1

theorem layerFinish_quiet (dp : Path) (dest : Str) (hd : CleanAbs dest)
    (st : LState) (out : Out) (w : World) (hw : LW dp w) (hl : LStOK dp dest st) (hf : FSt0 dest st)
    (i : Ino) (n : Inode) (P : Path) (hlk : w.fs.lookup P = some i) (hi : w.fs.inode i = some n)
    (huniq : ∀ q, w.fs.lookup q = some i → q = P)
    (hc : ¬ Cov [pathComps (join dest tmpName)] P) (ha : ¬ Anc [pathComps (join dest tmpName)] P) :
    ((layerFinish dest st out).run w).2.fs.lookup P = some i ∧ ((layerFinish dest st out).run w).2.fs.inode i = some n := by
  obtain ⟨h1, _, _, h2⟩ := (layerFinish_framed dp dest hd st out w hw hl hf).sole hlk huniq hc
  exact ⟨h1, (h2 ha).trans hi⟩

theorem layerEnd_split (dp : Path) (dest : Str) (o : Opts) (st : LState) (w : World) (hw : LW dp w)
    (hl : LStOK dp dest st) :
    ∃ r w1, (layerLoop dest o [] st).run w = (layerFinish dest st r).run w1 ∧ LW dp w1 ∧
      (∀ q, w1.fs.lookup q = w.fs.lookup q) ∧
      ∀ i n, w.fs.inode i = some n → n.kind ≠ .dir → w1.fs.inode i = some n := by
  have hdt := dirTimes_nondir dp dest st.dirs.reverse w hw fun e he => hl.dirs e (by simpa using he)
  refine ⟨((dirTimesP dest st.dirs.reverse).run w).1, _, ?_, hdt.1,
    KeepsNames.run _ w (keeps_dirTimes dest st.dirs.reverse), hdt.2⟩
  rw [layerLoop, Prog.bind_eq, Prog.run_bind]

/-- the end of the loop (deferred directory times, clean-up) adds no name -/
theorem layerEnd_names (dp : Path) (dest : Str) (o : Opts) (hd : CleanAbs dest) (hdp : pathComps dest = dp)
    (st : LState) (w : World) (hw : LW dp w) (hst : LStOK dp dest st) (q : Path) (hq : w.fs.lookup q = none) :
    ((layerLoop dest o [] st).run w).2.fs.lookup q = none := by
  obtain ⟨r, w1, heq, hw1, hk, _⟩ := layerEnd_split dp dest o st w hw hst
  rw [heq]
  exact layerFinish_names dp dest st r w1 hw1 hst q (by rw [hk]; exact hq)

/-- the end of the loop leaves alone an object that is not a directory and whose only name is neither at,
    beneath nor above the staging directory -/
theorem layerEnd_quiet (dp : Path) (dest : Str) (o : Opts) (hd : CleanAbs dest) (hdp : pathComps dest = dp)
    (st : LState) (w : World) (hw : LW dp w) (hl : LStOK dp dest st) (hf : FSt0 dest st)
    (i : Ino) (n : Inode) (P : Path) (hlk : w.fs.lookup P = some i) (hi : w.fs.inode i = some n) (hk : n.kind ≠ .dir)
    (huniq : ∀ q, w.fs.lookup q = some i → q = P)
    (hc : ¬ Cov [pathComps (join dest tmpName)] P) (ha : ¬ Anc [pathComps (join dest tmpName)] P) :
    ((layerLoop dest o [] st).run w).2.fs.lookup P = some i ∧ ((layerLoop dest o [] st).run w).2.fs.inode i = some n := by
  obtain ⟨r, w1, heq, hw1, hk1, hin⟩ := layerEnd_split dp dest o st w hw hl
  rw [heq]
  exact layerFinish_quiet dp dest hd st r w1 hw1 hl hf i n P (by rw [hk1]; exact hlk) (hin i n hi hk)
    (fun q hq => huniq q (by rw [← hk1]; exact hq)) hc ha

theorem layerEnd_name_kept (dp : Path) (dest : Str) (o : Opts) (hd : CleanAbs dest)
    (st : LState) (w : World) (hw : LW dp w) (hl : LStOK dp dest st) (hf : FSt0 dest st)
    (P : Path) (i : Ino) (hlk : w.fs.lookup P = some i) (hc : ¬ Cov [pathComps (join dest tmpName)] P) :
    ((layerLoop dest o [] st).run w).2.fs.lookup P = some i := by
  obtain ⟨r, w1, heq, hw1, hk1, _⟩ := layerEnd_split dp dest o st w hw hl
  rw [heq]
  exact (layerFinish_framed dp dest hd st r w1 hw1 hl hf).names_keep P i (by rw [hk1]; exact hlk) hc

/-- `dest/tmpName` is one component longer than `dest`, so a path at or beneath `dest` and at or above
    `dest/tmpName` is one of the two: the destination, which `hne` excludes, or the staging directory, which is covered -/
theorem not_anc_tmp (dest : Str) (hd : CleanAbs dest) (P : Path) (hin : pathComps dest <+: P) (hne : P ≠ pathComps dest)
    (hc : ¬ Cov [pathComps (join dest tmpName)] P) : ¬ Anc [pathComps (join dest tmpName)] P := by
  rintro ⟨t, ht, hp⟩
  obtain rfl := List.mem_singleton.mp ht
  rw [(join_child hd tmpName_norm).2] at hp hc
  obtain ⟨s, rfl⟩ := hin
  rcases List.prefix_cons_iff.mp ((List.prefix_append_right_inj _).mp hp) with rfl | ⟨s', rfl, hs'⟩
  · exact hne (List.append_nil _)
  · rw [List.prefix_nil.mp hs'] at hc
    exact hc ⟨_, List.mem_singleton_self _, List.prefix_refl _⟩

theorem applyLayer_run (dest : Str) (o : Opts) (es : List Entry) (um : Nat) (w : World) :
    ((applyLayerP dest o es um).run w).1 = ((unpackLayerP (clean dest) o es).run (step w (.setUmask 0)).2).1 ∧
    ((applyLayerP dest o es um).run w).2.fs = ((unpackLayerP (clean dest) o es).run (step w (.setUmask 0)).2).2.fs := by
  unfold applyLayerP
  rw [run_sys_bind, Prog.bind_eq, Prog.run_bind]
  exact ⟨rfl, rfl⟩

section
variable (dp : Path) (dest : Str) (o : Opts) (hd : CleanAbs dest) (hdp : pathComps dest = dp)
variable (e : Entry) (st st' : LState) (w w' : World)

include hd hdp in
theorem iterL_at_inv (hw : LW dp w) (hx : e.typ ≠ .xglobal)
    (hstage : (hasPrefix (clean e.name) whMetaPrefix && hasPrefix (clean e.name) whLinkDir && e.typ == .reg) = false)
    (hskip : (hasPrefix (clean e.name) whMetaPrefix && decide (clean e.name ≠ whOpaqueDir)) = false)
    (hrun : (layerIterP dest o e st).run w = (.ok st', w')) :
    CleanAbs (join dest (clean e.name)) ∧ dp <+: pathComps (join dest (clean e.name)) ∧ ∃ w1, LW dp w1 ∧
      Framed [pathComps (join dest (clean e.name))] w.fs w1.fs ∧
      (if hasPrefix (base (join dest (clean e.name))) whPrefix
        then layerMarkK dest { st with size := st.size + e.size } (join dest (clean e.name)) pure
        else layerEntryK dest o e { st with size := st.size + e.size } (join dest (clean e.name)) pure).run w1
      = (.ok st', w') := by
  have hxg : ¬ (e.typ == Typ.xglobal) = true := by simpa using hx
  rw [layerIterP_eq, layerIterK, if_neg hxg, stageP_skip _ _ _ _ _ hstage] at hrun
  change (layerNamedK dest o e _ pure).run w = _ at hrun
  rw [layerNamedK, if_neg (Bool.eq_false_iff.mp hskip)] at hrun
  split at hrun
  · cases hrun
  rename_i p hg
  obtain ⟨rfl, hpc, hpin⟩ := guardName_ok dest (clean e.name) p hd hg
  rw [hdp] at hpin
  refine ⟨hpc, hpin, ?_⟩
  rw [layerAtK, Prog.bind_eq, Prog.run_bind] at hrun
  have hl := lex_impliedDirs dp dest e.name o hd hpin
  have hw1 := (LexSem.run dp _ _ w hl hw).2.1
  have hF := (FrSem.run dp [pathComps (join dest (clean e.name))] w.fs hw.inv.fresh _ _ _ w hl
    (fr_impliedDirs dp _ w.fs dest e.name o hd (by simp)) hw (Framed.refl _ _)).1
  split at hrun
  · cases hrun
  · exact ⟨_, hw1, hF, hrun⟩

theorem layerMark_whiteout_inv (p : Str) (hnop : base p ≠ whOpaqueDir)
    (hrun : (layerMarkK dest st p pure).run w = (.ok st', w')) :
    isWithin dest (join (dir p) ((base p).drop whPrefix.length)) = true ∧
      join (dir p) ((base p).drop whPrefix.length) ≠ clean dest ∧
      ∃ rr, (whiteoutRemoveP (join (dir p) ((base p).drop whPrefix.length))).run w = (some rr, w') ∧ isErr rr = false := by
  revert hrun
  fun_cases layerMarkK dest st p pure
  case case2 hop => exact absurd hop hnop
  case case3 =>
    fun_cases layerWhiteoutK dest st (join (dir p) ((base p).drop whPrefix.length)) pure
    -- the name is inside the destination and is not the destination: the removal was made and did not fail
    case case3 hwo hnd =>
      intro hrun
      rw [Prog.bind_eq, Prog.run_bind] at hrun
      split at hrun
      · cases hrun
      rename_i rr heq
      split at hrun
      · cases hrun
      rename_i hre
      cases hrun
      exact ⟨by simpa using hwo, hnd, rr, Prod.ext heq rfl, by simpa using hre⟩
    all_goals nofun
  all_goals nofun

theorem layerMark_opaque_inv (p : Str) (hop : base p = whOpaqueDir)
    (hrun : (layerMarkK dest st p pure).run w = (.ok st', w')) :
    isWithin dest (dir p) = true ∧ (w' = w ∨ ∃ items r, (step w (.listTree (dir p))).1 = .tree items ∧
      (opaqueWalkP (dir p) st.unpacked items none).run w = (r, w')) := by
  rw [layerMarkK] at hrun
  split at hrun
  · cases hrun
  rename_i hwd
  refine ⟨by simpa using hwd, ?_⟩
  rw [layerOpaqueK, run_sys_bind, lstat_world] at hrun
  split at hrun
  · cases hrun
  rw [run_sys_bind, listTree_world] at hrun
  split at hrun
  · rename_i items heq
    rw [Prog.bind_eq, Prog.run_bind] at hrun
    split at hrun
    · cases hrun
    · cases hrun
      exact Or.inr ⟨items, _, heq, rfl⟩
  · cases hrun; exact Or.inl rfl
  · cases hrun

theorem layerEntry_inv (p : Str) (hp : LexArg dp p) (hne : pathComps p ≠ dp) (hw : LW dp w)
    (hsrc : ¬ (e.typ = .link ∧ hasPrefix (clean e.linkname) whLinkDir = true))
    (hrun : (layerEntryK dest o e st p pure).run w = (.ok st', w')) :
    Written dp dest o e p w' ∧
      st' = { st with dirs := (if e.typ == .dir then { e with name := clean e.name } :: st.dirs else st.dirs),
                      unpacked := p :: st.unpacked } := by
  rw [layerEntryK, run_sys_bind, lstat_world] at hrun
  split at hrun
  · cases hrun
  rw [Prog.bind_eq, Prog.run_bind] at hrun
  -- the removal, if any, keeps the invariant and leaves nothing at the path
  obtain ⟨rm, w2, hrm, hw2, hroom⟩ : ∃ rm w2,
      (if needRmL (step w (.lstat p)).1 e = true then sys (.removeAll p) else pure .ok).run w = (rm, w2) ∧ LW dp w2 ∧
      (isErr rm = false → e.typ ≠ .dir → Absent p w2) := by
    split
    · exact ⟨_, _, rfl, (step_good dp w (.removeAll p) hw (good_lex (s := .removeAll p) ⟨hp, hne⟩)).2,
        fun hok _ => Or.inl ((removeAll_post dp w hw p hp hne).1 hok _ (under_refl _))⟩
    · rename_i hno
      refine ⟨.ok, w, rfl, hw, fun _ hnd => lstat_nostat dp w hw p hp fun s hs => hno ?_⟩
      rw [hs]; simp [needRmL, hnd]
  rw [hrm] at hrun
  split at hrun
  · cases hrun
  rename_i hre
  have hres : resolveSrcP st e = pure (.ok e) := if_neg (by simpa using hsrc)
  rw [layerTailK, hres] at hrun
  change (match remapE o e with | none => _ | some src' => _ : Prog LayerRes).run w2 = _ at hrun
  split at hrun
  · cases hrun
  rename_i e' hrem
  rw [Prog.bind_eq, Prog.run_bind] at hrun
  split at hrun
  · cases hrun
  rename_i hout
  have hout' : ((createTarFileP p dest e' o).run w2).1 = .ok := by simpa using hout
  cases hrun
  exact ⟨⟨hp, e', w2, hrem, hw2, hroom (by simpa using hre), Prod.ext hout' rfl⟩, rfl⟩

include hd hdp in
theorem iterL_entry_inv (hw : LW dp w) (hx : e.typ ≠ .xglobal)
    (hmeta : hasPrefix (clean e.name) whMetaPrefix = false)
    (hnwh : hasPrefix (base (join dest (clean e.name))) whPrefix = false)
    (hne : pathComps (join dest (clean e.name)) ≠ dp)
    (hsrc : ¬ (e.typ = .link ∧ hasPrefix (clean e.linkname) whLinkDir = true))
    (hrun : (layerIterP dest o e st).run w = (.ok st', w')) :
    Written dp dest o e (join dest (clean e.name)) w' ∧
      st'.dirs = (if e.typ == .dir then { e with name := clean e.name } :: st.dirs else st.dirs) ∧
      st'.unpacked = join dest (clean e.name) :: st.unpacked := by
  obtain ⟨hpc, hpin, w1, hw1, _, hrun1⟩ :=
    iterL_at_inv dp dest o hd hdp e st st' w w' hw hx (by simp [hmeta]) (by simp [hmeta]) hrun
  rw [if_neg (by simp [hnwh])] at hrun1
  obtain ⟨hwr, rfl⟩ := layerEntry_inv dp dest o e _ st' w1 w' _ (lexArg_of hpc hpin) hne hw1 hsrc hrun1
  exact ⟨hwr, rfl, rfl⟩

end

/-- **one iteration for a whiteout entry**: when it goes on to the next entry, nothing is left at or beneath
    the path the whiteout names -/
theorem iter_whiteout_post (dp : Path) (dest : Str) (o : Opts) (hd : CleanAbs dest) (hdp : pathComps dest = dp)
    (e : Entry) (st : LState) (w : World) (hw : LW dp w)
    (hx : e.typ ≠ .xglobal) (hmeta : hasPrefix (clean e.name) whMetaPrefix = false)
    (hwh : hasPrefix (base (join dest (clean e.name))) whPrefix = true)
    (hnop : base (join dest (clean e.name)) ≠ whOpaqueDir)
    (st' : LState) (w' : World) (hrun : (layerIterP dest o e st).run w = (.ok st', w')) :
    ∀ q, under (pathComps (join (dir (join dest (clean e.name)))
        ((base (join dest (clean e.name))).drop whPrefix.length))) q = true → w'.fs.lookup q = none := by
  obtain ⟨hpc, _, w1, hw1, _, hrun1⟩ :=
    iterL_at_inv dp dest o hd hdp e st st' w w' hw hx (by simp [hmeta]) (by simp [hmeta]) hrun
  rw [if_pos hwh] at hrun1
  obtain ⟨hwo, hnd, rr, hrm, hre⟩ := layerMark_whiteout_inv dest _ st' w1 w' _ hnop hrun1
  have horigc := join_cleanAbs (dir (join dest (clean e.name))) ((base (join dest (clean e.name))).drop whPrefix.length)
    (dir_cleanAbs hpc).1
  simp only [whiteoutRemoveP, Prog.run, stat_world] at hrm
  split at hrm <;> cases hrm
  exact (removeAll_post dp w1 hw1 _ (lexArg_of horigc (hdp ▸ within_of_isWithin hd horigc hwo))
    fun e' => hnd (eq_clean_dest hd hdp horigc e')).1 hre

structure LCfg (dest : Str) (st : LState) (w : World) : Prop where
  lw : LW (pathComps dest) w
  lex : LStOK (pathComps dest) dest st
  fr : FSt0 dest st

theorem LCfg.start {dest : Str} {w : World} (hw : LW (pathComps dest) w) : LCfg dest {} w :=
  ⟨hw, ⟨by simp, Or.inl rfl, by simp⟩, ⟨Or.inl rfl, by simp⟩⟩

section
variable {dest : Str} {o : Opts} (hd : CleanAbs dest)
include hd

theorem LCfg.iter {e : Entry} {st st' : LState} {w w' : World} (h : LCfg dest st w) (hes : e.typ ≠ .sym)
    (hrun : (layerIterP dest o e st).run w = (.ok st', w')) :
    LCfg dest st' w' ∧ Framed (touchedI dest e) w.fs w'.fs := by
  have hl := lex_iterL _ dest o hd rfl e st hes h.lex
  have hf := fr_iterL (pathComps dest) (touchedI dest e) w.fs dest o hd e st hes (by simp [touchedI])
    (fun x hx => by simp [touchedI, hx]) h.fr
  have h1 := FrSem.run _ (touchedI dest e) w.fs h.lw.inv.fresh _ _ _ w hl hf h.lw (Framed.refl _ _)
  have h2 := LexSem.run _ _ _ w hl h.lw
  rw [hrun] at h1 h2
  exact ⟨⟨h2.2.1, h2.2.2, h1.2⟩, h1.1⟩

theorem LCfg.run {es : List Entry} {st st' : LState} {w w' : World} (h : LCfg dest st w) (hsym : ∀ e ∈ es, e.typ ≠ .sym)
    (hrun : layerRun dest o es st w = (.ok st', w')) :
    LCfg dest st' w' ∧ Framed (touchedIs dest es) w.fs w'.fs := by
  have := layerRun_frame _ dest o hd rfl es st w hsym h.lw h.lex h.fr
  rw [hrun] at this
  exact ⟨⟨this.2.1, this.2.2.1, this.2.2.2⟩, this.1⟩

end

/-- **a successful `ApplyLayer`**: every iteration went on, from the world with umask 0, and what is left is the
    end of the loop, which succeeded too -/
theorem applyLayer_ok_run (dest : Str) (o : Opts) (es : List Entry) (um : Nat) (w : World)
    (hok : ((applyLayerP dest o es um).run w).1.1 = .ok) :
    ∃ s w', layerRun (clean dest) o es {} (step w (.setUmask 0)).2 = (.ok s, w') ∧
      ((layerLoop (clean dest) o [] s).run w').1.1 = .ok ∧
      ((applyLayerP dest o es um).run w).2.fs = ((layerLoop (clean dest) o [] s).run w').2.fs := by
  obtain ⟨hr1, hr2⟩ := applyLayer_run dest o es um w
  rw [hr1, unpackLayerP, layerLoop_run] at hok
  rw [hr2, unpackLayerP, layerLoop_run]
  split at hok
  · rename_i out st' w' heq
    rw [layerFinish_out] at hok
    exact absurd hok (layerRun_error_ne_ok _ _ _ _ _ _ _ _ heq)
  · rename_i s w' heq
    exact ⟨s, w', heq, hok, rfl⟩

theorem tmp_mem_touchedL (dest : Str) (es : List Entry) : ∀ t ∈ [pathComps (join dest tmpName)], t ∈ touchedL dest es :=
  fun t ht => by rw [List.mem_singleton.mp ht]; exact List.mem_cons_self

/-- **the cut of a successful `ApplyLayer` at one entry**: the entries before it, its own iteration, the entries after
    it — whose frame is that of what they name — and the end of the loop -/
theorem applyLayer_split (dest : Str) (o : Opts) (pre post : List Entry) (e : Entry) (um : Nat) (w : World)
    (habs : isAbs dest = true) (hsym : ∀ x ∈ pre ++ e :: post, x.typ ≠ .sym) (hw : LW (pathComps (clean dest)) w)
    (hok : ((applyLayerP dest o (pre ++ e :: post) um).run w).1.1 = .ok) :
    ∃ s1 w1 s2 w2 s3 w3, LCfg (clean dest) s1 w1 ∧ (layerIterP (clean dest) o e s1).run w1 = (.ok s2, w2) ∧
      LCfg (clean dest) s2 w2 ∧ layerRun (clean dest) o post s2 w2 = (.ok s3, w3) ∧ LCfg (clean dest) s3 w3 ∧
      Framed (touchedL (clean dest) post) w2.fs w3.fs ∧ ((layerLoop (clean dest) o [] s3).run w3).1.1 = .ok ∧
      ((applyLayerP dest o (pre ++ e :: post) um).run w).2.fs = ((layerLoop (clean dest) o [] s3).run w3).2.fs := by
  have hd : CleanAbs (clean dest) := clean_cleanAbs dest habs
  obtain ⟨s3, w3, hrun, hend, hfs⟩ := applyLayer_ok_run dest o _ um w hok
  obtain ⟨s1, w1, hpre, hrun⟩ := layerRun_append_ok hrun
  obtain ⟨s2, w2, hit, hpo⟩ := layerRun_cons_ok hrun
  have c0 : LCfg (clean dest) {} (step w (.setUmask 0)).2 :=
    .start (step_good _ w (.setUmask 0) hw (good_lex (s := .setUmask 0) trivial)).2
  have c1 := (c0.run hd (fun x hx => hsym x (by simp [hx])) hpre).1
  have c2 := (c1.iter hd (hsym e (by simp)) hit).1
  obtain ⟨c3, hF⟩ := c2.run hd (fun x hx => hsym x (by simp [hx])) hpo
  exact ⟨s1, w1, s2, w2, s3, w3, c1, hit, c2, hpo, c3, hF.mono (touchedIs_sub _ _), hend, hfs⟩

end GA
