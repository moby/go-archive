import GA.Proofs.StepEff
import GA.Proofs.Confine
/-
  Every system call of layer K, issued by a thread whose root lies under `r`, leaves the filesystem `Confined r` (the
  relation of `Confine`: `step_confined`, by cases on `StepEff`, with `walk_under` for where a path resolves); hence
  so does every program (`run_confined`, by induction on `Prog`), with or without injected faults (`runF_confined`).
  `Inv r` is what this asks of the world, `StepOK` = `Confined` and `Inv` after; `RootKept`: no call removes the
  thread's root.
-/
namespace GA

theorem walk_under (fs : FS) (root : Path) : ∀ (fuel links : Nat) (cur : Path) (rest : List Str) (fl : Bool) (q : Path),
    under root cur = true → walk fs root fuel links cur rest fl = .ok q → under root q = true := by
  intro fuel links cur rest fl q
  fun_induction walk fs root fuel links cur rest fl
  case case1 => intro h e; exact WRes.ok.inj e ▸ h
  case case5 ih =>
    -- "..": stays at the root, else goes to the parent
    intro h; refine ih ?_
    split
    · exact h
    · exact under_dropLast h ‹_›
  case case6 =>
    -- `cur ++ [c]` is missing and is the last component
    intro h e; exact WRes.ok.inj e ▸ under_append _ _ _ h
  case case10 ih =>
    -- a symbolic link that is followed: on from the root (absolute target) or from `cur`
    intro h; refine ih ?_
    split
    · exact under_refl root
    · exact h
  case case11 ih => intro h; exact ih (under_append _ _ _ h)
  -- the other six answer an error
  all_goals nofun

theorem Resolves.under {w : World} {p : Str} {q : Path} (h : Resolves w p q) : under w.root q = true :=
  let ⟨_, hw⟩ := h
  walk_under _ _ _ _ _ _ _ _ (under_refl w.root) hw

/-- The root lies under `r`, so what a path resolves to does (`walk_under`); it exists, so a missing path is not the
    root and has its parent under it (`Inv.parent_under`); `next` is above every inode in use, so a created inode is
    none of those outside `r`. -/
structure Inv (r : Path) (w : World) : Prop where
  root_under : under r w.root = true
  root_exists : (w.fs.lookup w.root).isSome = true
  next_fresh : NextFresh w.fs

theorem NextFresh.of_same {fs fs' : FS} (h : NextFresh fs) (hs : SameKinds fs fs') : NextFresh fs' :=
  fun p j hp => hs.next ▸ h p j ((hs.lookup p).symm.trans hp)

theorem NextFresh.setInode {fs : FS} (h : NextFresh fs) (i : Ino) (n : Inode) :
    NextFresh (fs.setInode i n) := fun p j hp => h p j hp

theorem NextFresh.extend {fs fs' : FS} {q : Path} {i : Ino} (h : NextFresh fs)
    (hl : ∀ p, fs'.lookup p = if p = q then some i else fs.lookup p) (hn : fs.next ≤ fs'.next) (hi : i < fs'.next) :
    NextFresh fs' := fun p j hp =>
  (lookup_new_or_old hl hp).elim (fun e => e.2 ▸ hi) fun hp => Nat.lt_of_lt_of_le (h p j hp) hn

theorem NextFresh.create {fs : FS} (h : NextFresh fs) (q : Path) (n : Inode) (hn : fs.lookup q = none) :
    NextFresh (fs.create q n) :=
  h.extend (lookup_create fs q n hn) (next_create fs q n ▸ Nat.le_succ _) (next_create fs q n ▸ Nat.lt_succ_self _)

theorem NextFresh.addName {fs : FS} (h : NextFresh fs) (q qo : Path) (i : Ino) (hn : fs.lookup q = none)
    (ho : fs.lookup qo = some i) : NextFresh (fs.addName q i) :=
  have he := extends_addName fs q i hn
  h.extend he.lookup he.next (Nat.lt_of_lt_of_le (h qo i ho) he.next)

theorem NextFresh.filter {fs : FS} (h : NextFresh fs) (keep : Path → Bool) :
    NextFresh ({ fs with names := fs.names.filter (fun e => keep e.1) } : FS) :=
  fun p j hp => h p j (lookup_filterNames_some hp).1

theorem NextFresh.removeSubtree {fs : FS} (h : NextFresh fs) (q : Path) : NextFresh (fs.removeSubtree q) :=
  (h.filter (fun p => !(under q p))).of_same (.touchParent _ q)

theorem NextFresh.removeBelow {fs : FS} (h : NextFresh fs) (q : Path) : NextFresh (fs.removeBelow q) :=
  removeBelow_cases fs q h fun _ _ =>
    (h.filter (fun p => !(under q p) || p == q)).of_same (.modInode _ _ _ (fun _ => rfl))

def RootKept (root : Path) (fs fs' : FS) : Prop := (fs.lookup root).isSome = true → (fs'.lookup root).isSome = true

theorem RootKept.of_same (root : Path) {fs fs' : FS} (hs : SameKinds fs fs') : RootKept root fs fs' :=
  fun h => (hs.lookup root).symm ▸ h

theorem RootKept.extend (root : Path) {fs fs' : FS} {q : Path} {i : Ino}
    (hl : ∀ p, fs'.lookup p = if p = q then some i else fs.lookup p) : RootKept root fs fs' := by
  intro h
  rw [hl]
  split
  · rfl
  · exact h

theorem rootKept_removeSubtree (root : Path) (fs : FS) (q : Path) (hu : under root q = true) (hne : q ≠ root) :
    RootKept root fs (fs.removeSubtree q) := by
  intro h
  refine RootKept.of_same root (.touchParent _ q) ?_
  rw [lookup_filterNames fs (fun p => !(under q p)), not_under_of_under hu hne]; exact h

theorem rootKept_removeBelow (root : Path) (fs : FS) : RootKept root fs (fs.removeBelow root) := by
  refine removeBelow_cases fs root (fun h => h) fun _ _ h => ?_
  refine RootKept.of_same root (.modInode _ _ _ (fun _ => rfl)) ?_
  rw [lookup_filterNames fs (fun p => !(under root p) || p == root)]
  simpa using h

def StepOK (r : Path) (w w' : World) : Prop := Confined r w.fs w'.fs ∧ Inv r w'

theorem StepOK.same (r : Path) (w : World) (h : Inv r w) : StepOK r w w := ⟨Confined.refl _ _, h⟩

theorem StepOK.mk (r : Path) (w : World) (fs' : FS) (h : Inv r w) (hc : Confined r w.fs fs')
    (hn : NextFresh fs') (hk : RootKept w.root w.fs fs') : StepOK r w { w with fs := fs' } :=
  ⟨hc, ⟨h.root_under, hk h.root_exists, hn⟩⟩

theorem Inv.under_of_resolve {r : Path} {w : World} (h : Inv r w) {s : Str} {fl : Bool} {q : Path}
    (hq : resolve w s fl = .ok q) : under r q = true := under_trans h.root_under (resolve_resolves hq).under

theorem Inv.under_of_resolveC {r : Path} {w : World} (h : Inv r w) {s : Str} {q : Path}
    (hq : resolveC w s = .ok q) : under r q = true := under_trans h.root_under (resolveC_resolves hq).under

theorem Inv.parent_under {r : Path} {w : World} (h : Inv r w) {q : Path} (hu : under w.root q = true)
    (hn : w.fs.lookup q = none) : under r q.dropLast = true := by
  have hne : q ≠ w.root := by
    intro e; subst e
    have := h.root_exists
    rw [hn] at this; cases this
  exact under_trans h.root_under (under_dropLast hu hne)

theorem StepOK.create (r : Path) (w : World) (h : Inv r w) (q : Path) (n : Inode)
    (hu : under w.root q = true) (hn : w.fs.lookup q = none) :
    StepOK r w { w with fs := w.fs.create q n } :=
  StepOK.mk r w _ h
    (create_confined r w.fs q n hn (under_trans h.root_under hu) (h.parent_under hu hn) h.next_fresh)
    (h.next_fresh.create q n hn) (.extend w.root (lookup_create w.fs q n hn))

theorem StepOK.setInode (r : Path) (w : World) (h : Inv r w) (q : Path) (i : Ino) (n : Inode)
    (hu : under w.root q = true) (hq : w.fs.lookup q = some i) :
    StepOK r w { w with fs := w.fs.setInode i n } :=
  StepOK.mk r w _ h (setInode_confined r w.fs i n q hq (under_trans h.root_under hu))
    (h.next_fresh.setInode i n) (fun hh => hh)

theorem StepOK.trans {r : Path} {w w1 w2 : World} (h1 : StepOK r w w1) (h2 : StepOK r w1 w2) : StepOK r w w2 :=
  ⟨Confined.trans h1.1 h2.1, h2.2⟩

theorem StepEff.confined {r : Path} {w w' : World} {s : Sys} (h : Inv r w) (he : StepEff w s w') : StepOK r w w' := by
  cases he with
  | same => exact .same r w h
  | umask => exact ⟨.refl _ _, ⟨h.root_under, h.root_exists, h.next_fresh⟩⟩
  | create _ hq hn => exact .create r w h _ _ hq.under hn
  | write _ hq hl => exact .setInode r w h _ _ _ hq.under hl
  | link hqo hqn hl _ hn =>
    exact .mk r w _ h
      (addName_confined r w.fs _ _ _ hn (under_trans h.root_under hqn.under) (h.parent_under hqn.under hn) hl
        (under_trans h.root_under hqo.under))
      (h.next_fresh.addName _ _ _ hn hl) (.extend w.root (extends_addName w.fs _ _ hn).lookup)
  | remove hq hne =>
    exact .mk r w _ h
      (removeSubtree_confined r w.fs _ (under_trans h.root_under hq.under)
        (under_trans h.root_under (under_dropLast hq.under hne)))
      (h.next_fresh.removeSubtree _) (rootKept_removeSubtree w.root w.fs _ hq.under hne)
  | clear =>
    exact .mk r w _ h (removeBelow_confined r w.fs w.root h.root_under) (h.next_fresh.removeBelow w.root)
      (rootKept_removeBelow w.root w.fs)
  | chroot hq hl =>
    have hu := under_trans h.root_under hq.under
    exact ⟨modInode_confined r w.fs _ _ _ hl hu,
      ⟨hu, by show ((w.fs.modInode _ _).lookup _).isSome = true; rw [lookup_modInode, hl]; rfl, h.next_fresh.of_same (.modInode _ _ _ (fun _ => rfl))⟩⟩

theorem mkdirAllK_ok (r : Path) (fuel : Nat) (w : World) (p : Str) (perm : Nat) (h : Inv r w) :
    StepOK r w (mkdirAllK fuel w p perm).2 :=
  mkdirAllK_inv (StepOK r w) p perm (fun w1 p' _ h1 => h1.trans ((mkdirOne_eff w1 p' perm).confined h1.2))
    fuel w p List.prefix_rfl (.same r w h)

/-- **every system call is confined to the thread's root** -/
theorem step_confined (r : Path) (w : World) (s : Sys) (h : Inv r w) : StepOK r w (step w s).2 := by
  rcases step_eff w s with he | ⟨p, perm, rfl⟩
  · exact he.confined h
  · exact mkdirAllK_ok r _ w p perm h

/-- **every program is confined to the thread's root** -/
theorem run_confined {α : Type} (r : Path) : ∀ (p : Prog α) (w : World), Inv r w →
    Confined r w.fs (p.run w).2.fs ∧ Inv r (p.run w).2 := by
  intro p
  induction p with
  | ret a => intro w h; exact ⟨Confined.refl _ _, h⟩
  | call s k ih =>
    intro w h
    simp only [Prog.run]
    have hs := step_confined r w s h
    have := ih (step w s).1 (step w s).2 hs.2
    exact ⟨Confined.trans hs.1 this.1, this.2⟩

/-- … also when any subset of its system calls is refused instead of executed -/
theorem runF_confined {α : Type} (r : Path) (faults : Nat → Option Errno) : ∀ (p : Prog α) (n : Nat) (w : World),
    Inv r w → Confined r w.fs (p.runF faults n w).2.fs ∧ Inv r (p.runF faults n w).2 := by
  intro p
  induction p with
  | ret a => intro n w h; exact ⟨Confined.refl _ _, h⟩
  | call s k ih =>
    intro n w h
    simp only [Prog.runF]
    split
    · exact ih _ (n + 1) w h
    · have hs := step_confined r w s h
      have := ih (step w s).1 (n + 1) (step w s).2 hs.2
      exact ⟨Confined.trans hs.1 this.1, this.2⟩

end GA
