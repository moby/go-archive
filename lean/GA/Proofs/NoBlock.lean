import GA.Proofs.Calls
/-
  Blocking opens.  In the kernel model three calls can fail to return: `os.RemoveAll` (when the unlink fails with
  ENOTDIR it opens the parent, which may be a fifo), the open-for-write of `createTarFile` (an existing fifo) and a
  read of a fifo.  `NB p`: the program never issues one of the three (`NBSys`) — then it cannot block in any world
  (`step_nb`, `NB.blocks`); for the parts of the extractor this is read off their footprints.  For the others the
  world matters; `blocks_bind` lets a proof follow a program state by state.
-/
namespace GA

def NBSys : Sys → Prop
  | .createWrite _ _ _ | .removeAll _ | .readFile _ => False
  | _ => True

theorem mkdirOne_nb (w : World) (p : Str) (perm : Nat) : (mkdirOne w p perm).1 ≠ .blocked := by
  fun_cases mkdirOne w p perm <;> nofun

theorem statRes_nb (w : World) (p : Str) (fl : Bool) : statRes w p fl ≠ .blocked := by
  fun_cases statRes w p fl <;> nofun

/-- `os.MkdirAll` answers what it makes up itself, what the `MkdirAll` of the parent answered, or what `mkdir` did -/
theorem mkdirAllK_nb (fuel : Nat) (w : World) (p : Str) (perm : Nat) : (mkdirAllK fuel w p perm).1 ≠ .blocked := by
  fun_induction mkdirAllK fuel w p perm
  case case4 pr _ _ ih => unfold pr; split; exact ih; nofun
  case case6 | case7 => exact mkdirOne_nb _ _ _
  all_goals nofun

/-- by inspection of every way `step` ends: the answer `.blocked` stands in its text at the three calls excluded -/
theorem step_nb (w : World) (s : Sys) (h : NBSys s) : (step w s).1 ≠ .blocked := by
  fun_cases step w s
  case case1 | case2 => exact statRes_nb _ _ _
  case case3 => exact mkdirOne_nb _ _ _
  case case4 => exact mkdirAllK_nb _ _ _ _
  all_goals first | exact h.elim | nofun

def NB {α : Type} : Prog α → Prop
  | .ret _ => True
  | .call s k => NBSys s ∧ ∀ r, NB (k r)

theorem NB.blocks {α : Type} : ∀ (p : Prog α) (w : World), NB p → p.blocks w = false
  | .ret _, _, _ => rfl
  | .call s k, w, h => by
    simp only [Prog.blocks]
    have hs := step_nb w s h.1
    split
    · rename_i hb; exact absurd hb hs
    · exact NB.blocks (k _) _ (h.2 _)

theorem NB.bind {α β : Type} : ∀ (m : Prog α) (f : α → Prog β), NB m → (∀ a, NB (f a)) → NB (m >>= f)
  | .ret a, _, _, hf => hf a
  | .call _ k, f, hm, hf => ⟨hm.1, fun r => NB.bind (k r) f (hm.2 r) hf⟩

theorem nb_pure {α : Type} (a : α) : NB (pure a : Prog α) := trivial
theorem nb_sys (s : Sys) (h : NBSys s) : NB (sys s) := ⟨h, fun _ => trivial⟩

theorem NB.of_calls {α : Type} {G : Sys → Prop} (hG : ∀ s, G s → NBSys s) : ∀ (p : Prog α), p.Calls G → NB p
  | .ret _, _ => trivial
  | .call s k, h => ⟨hG s h.1, fun r => NB.of_calls hG (k r) (h.2 r trivial)⟩

theorem MkdirCall.nb {R : Sys → Res → Prop} {path : Str} {mode : Nat} {owner : Option (Nat × Nat)} {s : Sys}
    (h : MkdirCall R path mode owner s) : NBSys s := by
  cases h with
  | stat | mkdirAll => trivial
  | perm _ _ _ h => cases h <;> trivial

theorem nb_impliedDirs (dest n : Str) (o : Opts) : NB (impliedDirsP dest n o) :=
  NB.of_calls (fun _ h => h) _ (walk_impliedDirs dest n o trivial fun _ h => h.nb)

theorem MetaOn.nb {path : Str} {s : Sys} (h : MetaOn path s) : NBSys s := by cases h <;> trivial

theorem nb_applyMeta (path : Str) (e : Entry) (o : Opts) : NB (applyMetaP path e o) :=
  NB.of_calls (fun _ h => h.nb) _ (calls_applyMeta path e o)

theorem nb_dirTimes (dest : Str) (ds : List Entry) : NB (dirTimesP dest ds) :=
  NB.of_calls (fun _ ⟨_, _, h⟩ => h.nb) _ (calls_dirTimes dest ds)

theorem nb_createTarFile (path xd : Str) (e : Entry) (o : Opts) (h : e.typ ≠ .reg) : NB (createTarFileP path xd e o) :=
  NB.of_calls (fun _ hs => match hs with
    | .attr hm => hm.nb
    | .createWrite hr _ _ => absurd hr h
    | .mkdir _ | .mknod _ _ _ _ | .link _ _ | .symlink _ => trivial) _ (calls_createTarFile path xd e o)

def isBlockedR : Res → Bool
  | .blocked => true
  | _ => false

theorem blocks_call {α : Type} (s : Sys) (k : Res → Prog α) (w : World) :
    (Prog.call s k).blocks w = (isBlockedR (step w s).1 || (k (step w s).1).blocks (step w s).2) := by
  simp only [Prog.blocks]
  cases (step w s).1 <;> simp [isBlockedR]

theorem blocks_bind {α β : Type} : ∀ (m : Prog α) (f : α → Prog β) (w : World),
    (m.bind f).blocks w = (m.blocks w || (f (m.run w).1).blocks (m.run w).2)
  | .ret a, f, w => by simp [Prog.bind, Prog.blocks, Prog.run]
  | .call s k, f, w => by
    simp only [Prog.bind, Prog.run]
    rw [blocks_call, blocks_call, blocks_bind (k (step w s).1) f (step w s).2, Bool.or_assoc]

theorem blocks_sys_bind {β : Type} (s : Sys) (f : Res → Prog β) (w : World) :
    (sys s >>= f).blocks w = (isBlockedR (step w s).1 || (f (step w s).1).blocks (step w s).2) := by
  show (Prog.call s (fun r => (Prog.ret r).bind f)).blocks w = _
  rw [blocks_call]
  rfl

theorem isBlockedR_false_of_ne {r : Res} (h : r ≠ .blocked) : isBlockedR r = false := by
  cases r <;> simp [isBlockedR] at h ⊢

end GA
