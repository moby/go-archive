import GA.Proofs.FrameProg
import GA.Proofs.LexUnpack
/-
  The plain extractor and the frame: every mutating call of `unpackP` names the path of an entry (or the
  source of a hard-link entry), a directory on the way to it that it found missing, or something beneath
  (`touched`; `fr_iter`, read off the walk by `UnpackOn.fr`; `fr_unpackLoop`, `fr_untar`).
  The fold of the iterations' runs keeps the lexical invariant and the frame of what the entries name (`loopRun_frame`).
-/
namespace GA

theorem fr_true {α : Type} (dp : Path) (T : List Path) (fs0 : FS) {Q : α → Prop} (p : Prog α)
    (h : FrSem dp T fs0 Q p) : FrSem dp T fs0 (fun _ => True) p := FrSem.mono dp T fs0 (fun _ _ => trivial) p h

theorem PermOn.fr {T : List Path} {fs0 : FS} {p : Str} {mode : Nat} {owner : Option (Nat × Nat)} {s : Sys}
    (h : PermOn p mode owner s) (hp : MArg T fs0 p) : SysFr T fs0 s := by
  cases h
  · trivial
  all_goals exact hp

theorem MkdirCall.fr {dp : Path} {T : List Path} {fs0 : FS} {path : Str} {mode : Nat} {owner : Option (Nat × Nat)} {s : Sys}
    (hp : CleanAbs path) (hca : CovAnc T (pathComps path)) (h : MkdirCall (AnsFr dp T fs0) path mode owner s) :
    SysFr T fs0 s :=
  match h with
  | .stat _ => trivial
  | .mkdirAll => ⟨hca, hp.no_dotdot⟩
  | .perm (d := d) hd ⟨w, hw, hf, hr⟩ he h => by
    subst hr
    refine h.fr (stat_enoent_marg dp T fs0 w hw hf d true ?_ he)
    rcases List.mem_cons.mp hd with rfl | hd
    · exact hp
    · exact (ancestorsOf_spec _ _ hp d hd).1

theorem cov_self {T : List Path} {p : Path} (h : p ∈ T) : Cov T p := ⟨p, h, List.prefix_refl _⟩

theorem MkdirCall.fr_implied {dp : Path} {T : List Path} {fs0 : FS} {dest x : Str} {mode : Nat} {owner : Option (Nat × Nat)}
    {s : Sys} (hd : CleanAbs dest) (hin : pathComps (join dest (clean x)) ∈ T)
    (h : MkdirCall (AnsFr dp T fs0) (clean (join dest (dir (clean x)))) mode owner s) : SysFr T fs0 s := by
  have hc := implied_parent_comparable dest x hd
  rw [clean_of_cleanAbs _ hc.1] at h
  refine h.fr hc.1 ?_
  rcases hc.2.2 with h | h
  · exact Or.inr ⟨_, hin, h⟩
  · exact Or.inl ⟨_, hin, h⟩

theorem fr_impliedDirs (dp : Path) (T : List Path) (fs0 : FS) (dest x : Str) (o : Opts) (hd : CleanAbs dest)
    (hin : pathComps (join dest (clean x)) ∈ T) :
    FrSem dp T fs0 (fun _ => True) (impliedDirsP dest (clean x) o) :=
  FrSem.of_ans dp T fs0 (fun _ h => h) _ (walk_impliedDirs dest (clean x) o trivial fun _ h => h.fr_implied hd hin)

theorem MetaOn.fr {T : List Path} {fs0 : FS} {path : Str} {s : Sys} (h : MetaOn path s) (hp : MArg T fs0 path) :
    SysFr T fs0 s := by
  cases h
  · trivial
  all_goals exact hp

theorem CreateOn.fr {T : List Path} {fs0 : FS} {path xd : Str} {e : Entry} {s : Sys} (h : CreateOn path xd e s)
    (hp : FArg T path) (hxd : CleanAbs xd) (hlink : e.typ = .link → pathComps (join xd e.linkname) ∈ T)
    (hsym : e.typ ≠ .sym) : SysFr T fs0 s :=
  match h with
  | .attr h => h.fr hp.toM
  | .mkdir _ => hp.toC
  | .createWrite _ _ _ => hp
  | .mknod _ _ _ _ => hp.toC
  | .link hl _ => ⟨⟨Or.inl (cov_self (hlink hl)), (join_cleanAbs xd _ hxd).no_dotdot⟩, hp.toC⟩
  | .symlink hs => absurd hs hsym

theorem fr_dirTimes (dp : Path) (T : List Path) (fs0 : FS) (dest : Str) (es : List Entry)
    (h : ∀ e ∈ es, FArg T (join dest e.name)) : FrSem dp T fs0 (fun _ => True) (dirTimesP dest es) :=
  FrSem.of_calls dp T fs0 (fun _ ⟨x, hx, hs⟩ => hs.fr (h x hx).toM) _ (calls_dirTimes dest es)

def touched (dest : Str) (es : List Entry) : List Path :=
  es.flatMap (fun e => pathComps (join dest (clean e.name)) ::
    (if e.typ = .link then [pathComps (join dest e.linkname)] else []))

theorem touched_name {dest : Str} {es : List Entry} {e : Entry} (h : e ∈ es) :
    pathComps (join dest (clean e.name)) ∈ touched dest es := by
  unfold touched
  exact List.mem_flatMap.mpr ⟨e, h, by simp⟩

theorem touched_link {dest : Str} {es : List Entry} {e : Entry} (h : e ∈ es) (ht : e.typ = .link) :
    pathComps (join dest e.linkname) ∈ touched dest es := by
  unfold touched
  exact List.mem_flatMap.mpr ⟨e, h, by simp [ht]⟩

theorem UnpackOn.fr {dp : Path} {T : List Path} {fs0 : FS} {dest : Str} {o : Opts} {e : Entry} {p : Str} {s : Sys}
    (hd : CleanAbs dest) (hes : e.typ ≠ .sym)
    (hTe : pathComps (join dest (clean e.name)) ∈ T ∧ (e.typ = .link → pathComps (join dest e.linkname) ∈ T))
    (hg : guardName dest (clean e.name) = .ok p) (h : UnpackOn (AnsFr dp T fs0) dest o e p s) : SysFr T fs0 s := by
  obtain ⟨rfl, hpc, _⟩ := guardName_ok dest (clean e.name) p hd hg
  have hp : FArg T (join dest (clean e.name)) := ⟨cov_self hTe.1, hpc.no_dotdot⟩
  match h with
  | .look r => cases r <;> trivial
  | .implied h => exact h.fr_implied hd hTe.1
  | .replace _ _ => exact hp
  | .create he' hs =>
    exact hs.fr hp hd (by rw [remapE_typ o e _ he', remapE_linkname o e _ he']; exact hTe.2) (remapE_typ o e _ he' ▸ hes)

theorem fr_iter (dp : Path) (T : List Path) (fs0 : FS) (dest : Str) (o : Opts) (hd : CleanAbs dest)
    (hov : o.overlay = false) (e : Entry) (dirs : List Entry) (hes : e.typ ≠ .sym)
    (hTe : pathComps (join dest (clean e.name)) ∈ T ∧ (e.typ = .link → pathComps (join dest e.linkname) ∈ T)) :
    FrSem dp T fs0 (IterRes dest e dirs) (unpackIterP dest o e dirs) :=
  FrSem.of_ans dp T fs0 (fun _ h => h) _ (walk_unpackIter dest o e dirs (fun _ hg _ h => h.fr hd hes hTe hg)
    fun h => absurd (hov ▸ h) nofun)

/-- **the loop of `Unpack` touches only what the archive names** (default whiteout format, no
    symbolic-link entries) -/
theorem fr_unpackLoop (dp : Path) (T : List Path) (fs0 : FS) (dest : Str) (o : Opts) (hd : CleanAbs dest)
    (hov : o.overlay = false) : ∀ (es dirs : List Entry), (∀ e ∈ es, e.typ ≠ .sym) →
    (∀ e ∈ es, pathComps (join dest (clean e.name)) ∈ T ∧ (e.typ = .link → pathComps (join dest e.linkname) ∈ T)) →
    (∀ e ∈ dirs, FArg T (join dest e.name)) → FrSem dp T fs0 (fun _ => True) (unpackLoop dest o es dirs)
  | [], dirs, _, _, hdirs => by
    simp only [unpackLoop]
    exact fr_dirTimes dp T fs0 dest _ (fun e he => hdirs e (by simpa using he))
  | e :: es, dirs, hsym, hT, hdirs => by
    rw [unpackLoop_cons]
    refine FrSem.bind dp T fs0 _ _ (fr_iter dp T fs0 dest o hd hov e dirs (hsym e (by simp)) (hT e (by simp))) (fun r hr => ?_)
    match r, hr with
    | .error out, _ => trivial
    | .ok d, hr =>
      exact fr_unpackLoop dp T fs0 dest o hd hov es d (fun x hx => hsym x (by simp [hx])) (fun x hx => hT x (by simp [hx]))
        (hr.dirs (fun _ _ _ => ⟨cov_self (hT e (by simp)).1, (join_cleanAbs dest _ hd).no_dotdot⟩) hdirs)

theorem fr_untar (fs0 : FS) (dest : Str) (o : Opts) (es : List Entry) (habs : isAbs dest = true) (hov : o.overlay = false)
    (hsym : ∀ e ∈ es, e.typ ≠ .sym) :
    FrSem (pathComps (clean dest)) (touched (clean dest) es) fs0 (fun _ => True) (untarP dest o es) := by
  unfold untarP unpackP
  exact fr_unpackLoop _ _ fs0 (clean dest) o (clean_cleanAbs dest habs) hov es [] hsym
    (fun e he => ⟨touched_name he, touched_link he⟩) (by simp)

theorem touched_cons (dest : Str) (e : Entry) (es : List Entry) :
    touched dest (e :: es) = touched dest [e] ++ touched dest es := by
  simp [touched]

theorem loopRun_frame (dp : Path) (dest : Str) (o : Opts) (hd : CleanAbs dest) (hdp : pathComps dest = dp)
    (hov : o.overlay = false) : ∀ (es dirs : List Entry) (w : World), (∀ e ∈ es, e.typ ≠ .sym) → LW dp w →
    DirsOK dp dest dirs →
    Framed (touched dest es) w.fs (loopRun dest o es dirs w).2.fs ∧ LW dp (loopRun dest o es dirs w).2 ∧
      ∀ d', (loopRun dest o es dirs w).1 = .ok d' → DirsOK dp dest d'
  | [], dirs, w, _, hw, hdirs => ⟨Framed.refl _ _, hw, fun d' h => by simp only [loopRun] at h; cases h; exact hdirs⟩
  | e :: es, dirs, w, hsym, hw, hdirs => by
    have hes : e.typ ≠ .sym := hsym e (by simp)
    have hl := lex_iter dp dest o hd hdp hov e dirs hes hdirs
    have hf := fr_iter dp (touched dest [e]) w.fs dest o hd hov e dirs hes
      ⟨touched_name (by simp), fun ht => touched_link (by simp) ht⟩
    have h1 := FrSem.run dp (touched dest [e]) w.fs hw.inv.fresh _ _ _ w hl hf hw (Framed.refl _ _)
    have h2 := LexSem.run dp _ _ w hl hw
    simp only [loopRun]
    cases h : (unpackIterP dest o e dirs).run w with
    | mk r w' =>
      rw [h] at h1 h2
      cases r with
      | error out =>
        simp only
        rw [touched_cons]
        have := Framed.comp h1.1 (Framed.refl (touched dest es) w'.fs)
        exact ⟨this, h2.2.1, fun d' h => by cases h⟩
      | ok d =>
        simp only
        have ih := loopRun_frame dp dest o hd hdp hov es d w' (fun x hx => hsym x (by simp [hx])) h2.2.1 (h2.2.2 d rfl)
        rw [touched_cons]
        exact ⟨Framed.comp h1.1 ih.1, ih.2⟩

end GA
