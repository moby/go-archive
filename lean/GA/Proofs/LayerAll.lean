import GA.Proofs.LayerWalk
/-
  What one iteration of `UnpackLayer` returns, whatever the system calls answer: the walk of LayerWalk.lean with
  nothing asked of the calls and nothing assumed of the answers (`all_layerIter`, ending in `IterAny`).  How the
  size, the deferred directory list, the list of unpacked paths and the outcome of a stopped loop behave is read off
  the endings, and carried over the fold by `layerRun_all`.
-/
namespace GA

-- two results of property C06, listed by these names in its check; they stand here as instances of the walk
namespace C06
theorem resolveSrcP_all (st : LState) (e : Entry) :
    (resolveSrcP st e).All (fun r => match r with
      | .error out => out ≠ .ok
      | .ok _ => True) :=
  Prog.All.mono (fun r h => by cases r; exact h; trivial) _ (Prog.Sem.all _ (walk_resolveSrc (G := fun _ => True) st e fun _ => trivial))

/-- staging keeps the running size and fails only with a non-ok outcome -/
theorem stageP_all (dest : Str) (o : Opts) (e : Entry) (st : LState) (n : Str) :
    (stageP dest o e st n).All (fun r => match r with
      | .error out => out ≠ .ok
      | .ok st2 => st2.size = st.size) :=
  Prog.All.mono (fun r h => by cases r; exact h; exact h.size) _ (Prog.Sem.all _ (walk_stage (G := fun _ => True) dest o e st n fun _ _ => trivial))
end C06

abbrev IterAny (dest : Str) (e : Entry) (st0 : LState) (r : LayerRes) : Prop :=
  ∃ st, Staged (fun _ _ => True) dest e (clean e.name) { st0 with size := st0.size + e.size } st ∧ IterEnd dest e st r

theorem all_layerIter (dest : Str) (o : Opts) (e : Entry) (st0 : LState) : (layerIterP dest o e st0).All (IterAny dest e st0) :=
  Prog.Sem.all _ (walk_layerIter dest o e st0 (fun _ _ => trivial) fun _ _ _ _ _ _ => trivial)

/-- an iteration that stops the loop does so with an error, never with the success value -/
theorem layerIter_error_ne_ok (dest : Str) (o : Opts) (e : Entry) (st0 : LState) :
    (layerIterP dest o e st0).All (fun r => ∀ out st', r = .error (out, st') → out ≠ .ok) :=
  Prog.All.mono (fun _ ⟨_, _, he⟩ _ _ hr => (hr ▸ he).ne_ok) _ (all_layerIter dest o e st0)

theorem layerRun_all {dest : Str} {o : Opts} {P : LState → LayerRes → Prop} (hnil : ∀ st, P st (.ok st))
    (hstep : ∀ st st1 r, P st (.ok st1) → P st1 r → P st r) :
    ∀ (es : List Entry), (∀ e ∈ es, ∀ st, (layerIterP dest o e st).All (P st)) →
      ∀ st w, P st (layerRun dest o es st w).1 := by
  intro es h st w
  fun_induction layerRun dest o es st w
  case case1 => exact hnil _
  case case2 e _ st w _ _ heq => exact heq ▸ Prog.All.run _ w (h e List.mem_cons_self st)
  case case3 e _ st w _ _ heq ih =>
    have ha := Prog.All.run _ w (h e List.mem_cons_self st)
    rw [heq] at ha
    exact hstep _ _ _ ha (ih fun x hx => h x (List.mem_cons_of_mem _ hx))

theorem layerRun_error_ne_ok (dest : Str) (o : Opts) : ∀ (es : List Entry) (st : LState) (w : World) (out : Out)
    (st' : LState) (w' : World), layerRun dest o es st w = (.error (out, st'), w') → out ≠ .ok :=
  fun es st w out st' w' h =>
    layerRun_all (P := fun _ r => ∀ out st', r = .error (out, st') → out ≠ .ok) (fun _ _ _ h => nomatch h)
      (fun _ _ _ _ h => h) es (fun e _ st => layerIter_error_ne_ok dest o e st) st w out st' (by rw [h])

theorem layerRun_unpacked_mono (dest : Str) (o : Opts) : ∀ (es : List Entry) (st : LState) (w : World) (st' : LState)
    (w' : World), layerRun dest o es st w = (.ok st', w') → ∀ s ∈ st.unpacked, s ∈ st'.unpacked := by
  intro es st w st' w' h
  refine layerRun_all (P := fun st r => ∀ st', r = .ok st' → ∀ s ∈ st.unpacked, s ∈ st'.unpacked)
    (fun _ _ h s hs => Except.ok.inj h ▸ hs) (fun _ _ _ h1 h2 st' hr s hs => h2 st' hr s (h1 _ rfl s hs))
    es (fun e _ st0 => Prog.All.mono (fun _ ⟨st1, hs, he⟩ st' hr s h => ?_) _ (all_layerIter dest o e st0)) st w st' (by rw [h])
  have h' : s ∈ st1.unpacked := hs.unpacked ▸ h
  rcases (hr ▸ he).unpacked with hu | hu <;> rw [hu]
  · exact h'
  · exact List.mem_cons_of_mem _ h'

theorem layerRun_dirs_shape (dest : Str) (o : Opts) : ∀ (es : List Entry) (st : LState) (w : World) (st' : LState)
    (w' : World), layerRun dest o es st w = (.ok st', w') →
    ∃ news, st'.dirs = news ++ st.dirs ∧ ∀ x ∈ news, ∃ e ∈ es, x.name = clean e.name := by
  intro es st w st' w' h
  refine layerRun_all
    (P := fun st r => ∀ st', r = .ok st' → ∃ news, st'.dirs = news ++ st.dirs ∧ ∀ x ∈ news, ∃ e ∈ es, x.name = clean e.name)
    (fun _ _ h => ⟨[], by rw [Except.ok.inj h]; rfl, nofun⟩) ?_ es
    (fun e he st0 => Prog.All.mono (fun _ ⟨st1, hs, hend⟩ st' hr => ?_) _ (all_layerIter dest o e st0)) st w st' (by rw [h])
  · intro _ _ _ h1 h2 st' hr
    obtain ⟨n1, h1, hn1⟩ := h1 _ rfl
    obtain ⟨n2, h2, hn2⟩ := h2 st' hr
    exact ⟨n2 ++ n1, by rw [h2, h1, List.append_assoc], fun x hx => (List.mem_append.mp hx).elim (hn2 x) (hn1 x)⟩
  · subst hr
    rcases (show st'.dirs = _ ∨ st'.dirs = _ ∧ _ from hend.dirs) with h | ⟨h, _⟩
    · exact ⟨[], by rw [h, hs.dirs]; rfl, nofun⟩
    · exact ⟨[{ e with name := clean e.name }], by rw [h, hs.dirs]; rfl,
        fun y hy => ⟨e, he, by rw [List.mem_singleton.mp hy]⟩⟩

end GA
