import GA.M.Pack
import GA.Proofs.Programs
/-
  The producer's walk, for invariants of its state: what holds of the state before `addTarFile` and after
  each of its emission stages holds after the walk of every include, for every outcome of every system
  call (`walkP_all`, `includesP_all`).  An item reaches `addTarFile` only under a relative name not seen before
  (`C08.walkStep_add_new`).
-/
namespace GA

theorem emitP_all (st : PackState) (path : Str) (hdr : Entry) :
    (emitP st path hdr).All (fun st' => ∃ body, st' = { st with out := { hdr with body := body } :: st.out }) := by
  fun_cases emitP st path hdr
  case case1 => exact fun r => by cases r <;> exact ⟨_, rfl⟩
  case case2 => exact ⟨_, rfl⟩

theorem addTarFileP_all {P : PackState → Prop} (o : PackOpts) (st : PackState) (path name : Str) (h0 : P st)
    (h : ∀ s link capR, (afterStatP o st path name s link capR).All P) : (addTarFileP o st path name).All P := by
  unfold addTarFileP
  intro r
  cases r with
  | stat s =>
    simp only
    split
    · intro lr
      cases lr <;> first | exact h0 | exact fun capR => h s _ capR
    · exact fun capR => h s [] capR
  | _ => exact h0

theorem C08.walkFinish_add_new (o : PackOpts) (inc : Str) (depth : Nat) (isDir : Bool) (st : PackState) (relp : Str)
    (skip : Bool) (ws1 ws' : WalkSt) (r n : Str) (h : walkFinish o inc depth isDir st relp skip ws1 = .add ws' r n) :
    r = relp ∧ st.seenNames.contains relp = false := by
  revert h
  fun_cases walkFinish o inc depth isDir st relp skip ws1
  -- the one branch that answers `.add`: not excluded, and `relp` not among the names seen
  case case6 _ hc _ => exact fun h => ⟨(WalkAct.add.inj h).2.1.symm, Bool.of_not_eq_true hc⟩
  all_goals nofun

/-- an item is archived only under a relative name that has not been archived before -/
theorem C08.walkStep_add_new (o : PackOpts) (src inc fp : Str) (kind : Kind) (depth : Nat) (ws0 : WalkSt) (st : PackState)
    (ws' : WalkSt) (relp name : Str) (h : walkStep o src inc fp kind depth ws0 st = .add ws' relp name) :
    st.seenNames.contains relp = false := by
  revert h
  fun_cases walkStep o src inc fp kind depth ws0 st
  -- only the last branch, which hands the item to `walkFinish`, can answer `.add`
  case case4 =>
    intro h
    have := walkFinish_add_new _ _ _ _ _ _ _ _ _ _ _ h
    exact this.1 ▸ this.2
  all_goals nofun

variable {P : PackState → Prop} (o : PackOpts) (src : Str)
  (hadd : ∀ (st : PackState) (relp path name : Str), P st → st.seenNames.contains relp = false →
    (addTarFileP o { st with seenNames := relp :: st.seenNames } path name).All P)
include hadd

theorem walkP_all (inc : Str) : ∀ (items : List (Str × Kind × Nat)) (ws : WalkSt) (st : PackState), P st →
    (walkP o src inc items ws st).All P := by
  intro items ws st
  fun_induction walkP o src inc items ws st
  case case1 => exact id
  case case2 ih => exact ih
  case case3 filePath _ _ _ ws st ws' relp name hstep ih =>
    exact fun h => RProg.All.bind _ _
      (hadd st relp filePath name h (C08.walkStep_add_new o src inc _ _ _ ws st ws' relp name hstep)) ih

theorem includesP_all : ∀ (incs : List Str) (st : PackState), P st → (includesP o src incs st).All P := by
  intro incs st
  fun_induction includesP o src incs st
  case case1 => exact id
  case case2 inc incs st ih1 ih2 =>
    intro h t
    cases t with
    | tree items => exact RProg.All.bind _ _ (walkP_all o src hadd inc items {} st h) ih1
    | _ => exact ih2 h

end GA
