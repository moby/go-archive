import GA.M.Unpack
import GA.Proofs.Programs
/-
  One iteration of the loop of `UnpackLayer` as a program of its own (`layerIterP`): `.error (out, st)` = the loop
  ends now with `layerFinish dest st out`; `.ok st'` = it goes on with the next entry in state `st'`.

  The body of the loop is also cut into its stages (`layer…K`), each written once with what comes after it as a
  parameter `k`: with `k := pure` the stages compose to `layerIterP`, with `k := layerK dest o es` to the body of
  `layerLoop`, both by unfolding alone, and a `bind` after a stage goes into `k` (`layer…K_bind`, whence
  `layerLoop_cons`).  The text of the body thus stands three times (in `layerLoop` of GA/M/Unpack.lean, as
  `layerIterP`, as the `layer…K` stages), tied only by the `rfl` of `layerIterP_eq` and `layerLoop_eq`: a change of
  the model's loop has to be made in all three.

  The loop as a fold of iteration runs: `layerRun` with `layerLoop_run`, cut by `layerRun_append(_ok)` and
  `layerRun_cons_ok`; `resSt` is the state in a result of either kind.  One step of the opaque walk and of staging:
  `opaqueWalkP_cons` (with `skipsAt`), `stageP_skip`.
-/
namespace GA

/-- does the object found at the entry's path have to go first?  (anything but a directory under a directory entry) -/
def needRmL (l : Res) (e : Entry) : Bool :=
  match l with
  | .stat s => !(s.kind == .dir) || e.typ != .dir
  | _ => false

/-- the last part of `layerIterP`, after the entry's path has been cleared; `layerIterP` calls it, and `layerTailK` is
    the same text in `…K` form.  So this part of the loop's body stands here, in `layerTailK` and in `layerLoop`. -/
def layerTailP (dest : Str) (o : Opts) (e : Entry) (st : LState) (p : Str) : Prog (Except (Out × LState) LState) := do
  let srcR ← resolveSrcP st e
  match srcR with
  | .error out => return .error (out, st)
  | .ok src =>
    match remapE o src with
    | none => return .error (.err, st)
    | some src' =>
      let out ← createTarFileP p dest src' o
      if out != .ok then return .error (out, st)
      else
        let st' : LState := { st with dirs := (if e.typ == .dir then { e with name := clean e.name } :: st.dirs else st.dirs),
                                      unpacked := p :: st.unpacked }
        return .ok st'

def layerIterP (dest : Str) (o : Opts) (e : Entry) (st0 : LState) : Prog (Except (Out × LState) LState) := do
    let st := { st0 with size := st0.size + e.size }
    if e.typ == .xglobal then return .ok st
    else
    let n := clean e.name
    let stR ← stageP dest o e st n
    match stR with
    | .error out => return .error (out, st)
    | .ok st =>
    if hasPrefix n whMetaPrefix && n ≠ whOpaqueDir then return .ok st
    else match guardName dest n with
    | .error out => return .error (out, st)
    | .ok p =>
      let i ← impliedDirsP dest n o
      if isErr i then return .error (.err, st)
      else
      let b := base p
      if hasPrefix b whPrefix then
        let dr := dir p
        if !isWithin dest dr then return .error (.breakout, st)
        else if b = whOpaqueDir then do
          let l ← sys (.lstat dr)
          if isErr l then return .error (.err, st)
          else
            let t ← sys (.listTree dr)
            match t with
            | .tree items =>
              let w ← opaqueWalkP dr st.unpacked items none
              if isErr w then return .error (.err, st) else return .ok st
            | .err .ENOENT => return .ok st
            | _ => return .error (.err, st)
        else do
          let orig := join dr (b.drop whPrefix.length)
          if !isWithin dest orig then return .error (.breakout, st)
          else if orig = clean dest then return .error (.err, st)
          else
            let r ← whiteoutRemoveP orig
            match r with
            | none => return .error (.err, st)
            | some r => if isErr r then return .error (.err, st) else return .ok st
      else do
        let l ← sys (.lstat p)
        if needRmL l e && p = clean dest && e.typ != .dir then return .error (.err, st)
        else
        let rm ← (if needRmL l e then sys (.removeAll p) else pure .ok)
        if isErr rm then return .error (.err, st)
        else layerTailP dest o e st p

def layerK (dest : Str) (o : Opts) (es : List Entry) : Except (Out × LState) LState → Prog (Out × Nat)
  | .error (out, st) => layerFinish dest st out
  | .ok st => layerLoop dest o es st

abbrev LayerRes := Except (Out × LState) LState

variable {β : Type}

def layerOpaqueK (st : LState) (dr : Str) (k : LayerRes → Prog β) : Prog β := do
  let l ← sys (.lstat dr)
  if isErr l then k (.error (.err, st))
  else
    let t ← sys (.listTree dr)
    match t with
    | .tree items =>
      let w ← opaqueWalkP dr st.unpacked items none
      if isErr w then k (.error (.err, st)) else k (.ok st)
    | .err .ENOENT => k (.ok st)
    | _ => k (.error (.err, st))

def layerWhiteoutK (dest : Str) (st : LState) (orig : Str) (k : LayerRes → Prog β) : Prog β :=
  if !isWithin dest orig then k (.error (.breakout, st))
  else if orig = clean dest then k (.error (.err, st))
  else do
    let r ← whiteoutRemoveP orig
    match r with
    | none => k (.error (.err, st))
    | some r => if isErr r then k (.error (.err, st)) else k (.ok st)

def layerMarkK (dest : Str) (st : LState) (p : Str) (k : LayerRes → Prog β) : Prog β :=
  if !isWithin dest (dir p) then k (.error (.breakout, st))
  else if base p = whOpaqueDir then layerOpaqueK st (dir p) k
  else layerWhiteoutK dest st (join (dir p) ((base p).drop whPrefix.length)) k

def layerTailK (dest : Str) (o : Opts) (e : Entry) (st : LState) (p : Str) (k : LayerRes → Prog β) : Prog β := do
  let srcR ← resolveSrcP st e
  match srcR with
  | .error out => k (.error (out, st))
  | .ok src =>
    match remapE o src with
    | none => k (.error (.err, st))
    | some src' =>
      let out ← createTarFileP p dest src' o
      if out != .ok then k (.error (out, st))
      else k (.ok { st with dirs := (if e.typ == .dir then { e with name := clean e.name } :: st.dirs else st.dirs),
                            unpacked := p :: st.unpacked })

def layerEntryK (dest : Str) (o : Opts) (e : Entry) (st : LState) (p : Str) (k : LayerRes → Prog β) : Prog β := do
  let l ← sys (.lstat p)
  if needRmL l e && p = clean dest && e.typ != .dir then k (.error (.err, st))
  else
    let rm ← (if needRmL l e then sys (.removeAll p) else pure .ok)
    if isErr rm then k (.error (.err, st))
    else layerTailK dest o e st p k

def layerAtK (dest : Str) (o : Opts) (e : Entry) (st : LState) (p : Str) (k : LayerRes → Prog β) : Prog β := do
  let i ← impliedDirsP dest (clean e.name) o
  if isErr i then k (.error (.err, st))
  else if hasPrefix (base p) whPrefix then layerMarkK dest st p k
  else layerEntryK dest o e st p k

def layerNamedK (dest : Str) (o : Opts) (e : Entry) (st : LState) (k : LayerRes → Prog β) : Prog β :=
  if hasPrefix (clean e.name) whMetaPrefix && clean e.name ≠ whOpaqueDir then k (.ok st)
  else match guardName dest (clean e.name) with
  | .error out => k (.error (out, st))
  | .ok p => layerAtK dest o e st p k

def layerIterK (dest : Str) (o : Opts) (e : Entry) (st0 : LState) (k : LayerRes → Prog β) : Prog β :=
  let st1 := { st0 with size := st0.size + e.size }
  if e.typ == .xglobal then k (.ok st1)
  else do
    let stR ← stageP dest o e st1 (clean e.name)
    match stR with
    | .error out => k (.error (out, st1))
    | .ok st => layerNamedK dest o e st k

theorem layerIterP_eq (dest : Str) (o : Opts) (e : Entry) (st0 : LState) :
    layerIterP dest o e st0 = layerIterK dest o e st0 pure := rfl

theorem layerLoop_eq (dest : Str) (o : Opts) (e : Entry) (es : List Entry) (st0 : LState) :
    layerLoop dest o (e :: es) st0 = layerIterK dest o e st0 (layerK dest o es) := by
  rw [layerLoop]; rfl

section
variable {γ : Type} (k : LayerRes → Prog β) (f : β → Prog γ)

theorem layerOpaqueK_bind (st : LState) (dr : Str) :
    (layerOpaqueK st dr k).bind f = layerOpaqueK st dr (fun r => (k r).bind f) := by
  simp only [layerOpaqueK, Prog.bind_eq, Prog.bind_assoc, Prog.ite_bind]
  congr 1; funext l; congr 1; congr 1; funext t
  split <;> simp only [Prog.bind_assoc, Prog.ite_bind]

theorem layerWhiteoutK_bind (dest : Str) (st : LState) (orig : Str) :
    (layerWhiteoutK dest st orig k).bind f = layerWhiteoutK dest st orig (fun r => (k r).bind f) := by
  simp only [layerWhiteoutK, Prog.bind_eq, Prog.bind_assoc, Prog.ite_bind]
  congr 2; congr 1; funext r
  split <;> simp only [Prog.ite_bind]

theorem layerMarkK_bind (dest : Str) (st : LState) (p : Str) :
    (layerMarkK dest st p k).bind f = layerMarkK dest st p (fun r => (k r).bind f) := by
  simp only [layerMarkK, Prog.ite_bind, layerOpaqueK_bind, layerWhiteoutK_bind]

theorem layerTailK_bind (dest : Str) (o : Opts) (e : Entry) (st : LState) (p : Str) :
    (layerTailK dest o e st p k).bind f = layerTailK dest o e st p (fun r => (k r).bind f) := by
  simp only [layerTailK, Prog.bind_eq, Prog.bind_assoc]
  congr 1; funext srcR
  split
  · rfl
  · split
    · rfl
    · simp only [Prog.bind_assoc, Prog.ite_bind]

theorem layerEntryK_bind (dest : Str) (o : Opts) (e : Entry) (st : LState) (p : Str) :
    (layerEntryK dest o e st p k).bind f = layerEntryK dest o e st p (fun r => (k r).bind f) := by
  simp only [layerEntryK, Prog.bind_eq, Prog.bind_assoc, Prog.ite_bind, layerTailK_bind]

theorem layerAtK_bind (dest : Str) (o : Opts) (e : Entry) (st : LState) (p : Str) :
    (layerAtK dest o e st p k).bind f = layerAtK dest o e st p (fun r => (k r).bind f) := by
  simp only [layerAtK, Prog.bind_eq, Prog.bind_assoc, Prog.ite_bind, layerMarkK_bind, layerEntryK_bind]

theorem layerNamedK_bind (dest : Str) (o : Opts) (e : Entry) (st : LState) :
    (layerNamedK dest o e st k).bind f = layerNamedK dest o e st (fun r => (k r).bind f) := by
  simp only [layerNamedK, Prog.ite_bind]
  congr 1
  split
  · rfl
  · exact layerAtK_bind k f dest o e st _

theorem layerIterK_bind (dest : Str) (o : Opts) (e : Entry) (st0 : LState) :
    (layerIterK dest o e st0 k).bind f = layerIterK dest o e st0 (fun r => (k r).bind f) := by
  simp only [layerIterK, Prog.bind_eq, Prog.bind_assoc, Prog.ite_bind]
  congr 2; funext stR
  split
  · rfl
  · exact layerNamedK_bind k f dest o e _

end

theorem layerLoop_cons (dest : Str) (o : Opts) (e : Entry) (es : List Entry) (st0 : LState) :
    layerLoop dest o (e :: es) st0 = (layerIterP dest o e st0).bind (layerK dest o es) := by
  rw [layerLoop_eq, layerIterP_eq, layerIterK_bind]; rfl

def resSt : Except (Out × LState) LState → LState
  | .ok st => st
  | .error (_, st) => st

theorem stageP_skip (dest : Str) (o : Opts) (e : Entry) (st : LState) (n : Str)
    (h : (hasPrefix n whMetaPrefix && hasPrefix n whLinkDir && e.typ == .reg) = false) :
    stageP dest o e st n = pure (.ok st) :=
  if_neg (Bool.eq_false_iff.mp h)

/-- is an item at depth `d` a former descendant of the directory removed last? -/
def skipsAt (skip : Option Nat) (d : Nat) : Bool :=
  match skip with
  | some sd => decide (d > sd)
  | none => false

theorem opaqueWalkP_cons (dirS : Str) (unpacked : List Str) (q : Str) (k : Kind) (d : Nat)
    (rest : List (Str × Kind × Nat)) (skip : Option Nat) :
    opaqueWalkP dirS unpacked ((q, k, d) :: rest) skip =
      if skipsAt skip d then opaqueWalkP dirS unpacked rest skip
      else if q = dirS then opaqueWalkP dirS unpacked rest none
      else if unpacked.contains q then opaqueWalkP dirS unpacked rest none
      else (do
        let r ← sys (.removeAll q)
        if isErr r then pure r else opaqueWalkP dirS unpacked rest (some d)) := by
  cases skip <;> rfl

def layerRun (dest : Str) (o : Opts) : List Entry → LState → World → Except (Out × LState) LState × World
  | [], st, w => (.ok st, w)
  | e :: es, st, w =>
    match (layerIterP dest o e st).run w with
    | (.error x, w') => (.error x, w')
    | (.ok st', w') => layerRun dest o es st' w'

/-- `UnpackLayer` = the fold of its iterations; then the deferred directory times and the clean-up of the
    staging directory — or, when an iteration stopped the loop, the clean-up alone -/
theorem layerLoop_run (dest : Str) (o : Opts) : ∀ (es : List Entry) (st : LState) (w : World),
    (layerLoop dest o es st).run w =
      match layerRun dest o es st w with
      | (.error (out, st'), w') => (layerFinish dest st' out).run w'
      | (.ok st', w') => (layerLoop dest o [] st').run w' := by
  intro es st w
  fun_induction layerRun dest o es st w
  case case1 => rfl
  -- the first iteration stops the loop, or the rest follows
  case case2 h => rw [layerLoop_cons, Prog.run_bind, h]; rfl
  case case3 h ih => rw [layerLoop_cons, Prog.run_bind, h]; exact ih

theorem layerRun_append (dest : Str) (o : Opts) : ∀ (pre rest : List Entry) (st : LState) (w : World),
    layerRun dest o (pre ++ rest) st w =
      match layerRun dest o pre st w with
      | (.error x, w') => (.error x, w')
      | (.ok st', w') => layerRun dest o rest st' w' := by
  intro pre rest st w
  fun_induction layerRun dest o pre st w
  case case1 => rfl
  case case2 h => rw [List.cons_append, layerRun, h]
  case case3 h ih => rw [List.cons_append, layerRun, h]; exact ih

theorem layerRun_append_ok {dest : Str} {o : Opts} {pre rest : List Entry} {st st' : LState} {w w' : World}
    (h : layerRun dest o (pre ++ rest) st w = (.ok st', w')) :
    ∃ s1 w1, layerRun dest o pre st w = (.ok s1, w1) ∧ layerRun dest o rest s1 w1 = (.ok st', w') := by
  rw [layerRun_append] at h
  split at h
  · cases h
  · rename_i s1 w1 heq
    exact ⟨s1, w1, heq, h⟩

theorem layerRun_cons_ok {dest : Str} {o : Opts} {e : Entry} {es : List Entry} {st st' : LState} {w w' : World}
    (h : layerRun dest o (e :: es) st w = (.ok st', w')) :
    ∃ s1 w1, (layerIterP dest o e st).run w = (.ok s1, w1) ∧ layerRun dest o es s1 w1 = (.ok st', w') := by
  rw [layerRun] at h
  split at h
  · cases h
  · rename_i s1 w1 heq
    exact ⟨s1, w1, heq, h⟩

end GA
