import GA.Proofs.UnpackLast
/-
  The plain extractor never reaches a blocking open in a world without symbolic links: `os.RemoveAll` is
  only called on a path `lstat` has just resolved, and the open-for-write of a regular-file entry only on
  a path that is absent (or cannot be resolved at all): `iter_noblock`.
-/
namespace GA

theorem createTarFile_reg_noblock (dp : Path) (path xd : Str) (e : Entry) (o : Opts) (hp : LexArg dp path)
    (hreg : e.typ = .reg) (w : World) (hw : LW dp w)
    (h : Absent path w) : (createTarFileP path xd e o).blocks w = false := by
  unfold createTarFileP
  simp only [hreg]
  rw [blocks_sys_bind, createWrite_nb dp w hw path hp e.mode e.body h, Bool.false_or]
  split
  · rfl
  · split
    · rfl
    · exact NB.blocks _ _ (nb_applyMeta path e o)

/-- **one iteration never blocks** -/
theorem iter_noblock (dp : Path) (dest : Str) (o : Opts) (hd : CleanAbs dest) (hdp : pathComps dest = dp)
    (hov : o.overlay = false) (e : Entry) (dirs : List Entry) (w : World) (hw : LW dp w) (hes : e.typ ≠ .sym) :
    (unpackIterP dest o e dirs).blocks w = false := by
  rw [unpackIterP_eq]
  fun_cases unpackIterK dest o e dirs pure
  case case4 p hg =>
    obtain ⟨_, hpc, hpin⟩ := guardName_ok dest (clean e.name) p hd hg
    have hp : LexArg dp p := lexArg_of hpc (hdp ▸ hpin)
    rw [unpackClearK_eq_bind, blocks_bind]
    obtain ⟨hb, hw2, hres⟩ := unpackClearP_run dp dest o hd hdp e p hg dirs w hw
    rw [hb, Bool.false_or]
    generalize (unpackClearP dest o e p dirs).run w = c at hw2 hres ⊢
    obtain ⟨v, w2⟩ := c
    match v with
    | some r => rfl
    | none =>
      simp only at hw2 hres ⊢
      rw [unpackWriteK_plain dest o hov]
      cases hrem : remapE o e with
      | none => rfl
      | some e' =>
        have hty : e'.typ = e.typ := remapE_typ o e e' hrem
        have hcb : (createTarFileP p dest e' o).blocks w2 = false := by
          by_cases hreg : e.typ = .reg
          · exact createTarFile_reg_noblock dp p dest e' o hp (hty.trans hreg) w2 hw2
              (hres (by rw [hreg]; decide))
          · exact NB.blocks _ _ (nb_createTarFile p dest e' o (by rw [hty]; exact hreg))
        simp only
        rw [blocks_bind, hcb, Bool.false_or]
        split <;> rfl
  -- the other ways through the iteration make no call
  all_goals rfl

end GA
